import ChitchatModel.Model.Basic
import ChitchatModel.Model.NodeState
import ChitchatModel.Model.Wire
import ChitchatModel.Model.Cluster
import ChitchatModel.Model.FD
import ChitchatModel.Model.Chitchat
import ChitchatModel.Lemmas.AL
import ChitchatModel.Lemmas.NodeState
import ChitchatModel.Lemmas.Sender
import ChitchatModel.Props.C04
import ChitchatModel.Props.C14
import ChitchatModel.Props.C20
import ChitchatModel.Lemmas.Order
import ChitchatModel.Lemmas.Local
import ChitchatModel.Props.C06
import ChitchatModel.Lemmas.Builder
import ChitchatModel.Lemmas.WireRT
import ChitchatModel.Lemmas.Stream
import ChitchatModel.Lemmas.Serializer
import ChitchatModel.Props.C07
import ChitchatModel.Props.C08
import ChitchatModel.Props.C09
import ChitchatModel.Lemmas.FD
import ChitchatModel.Props.C05
import ChitchatModel.Props.C10
import ChitchatModel.Props.C11
import ChitchatModel.Props.C12
import ChitchatModel.Props.C13
import ChitchatModel.Props.C16
import ChitchatModel.Props.C18
import ChitchatModel.Model.Listener
import ChitchatModel.Model.Select
import ChitchatModel.Lemmas.Listener
import ChitchatModel.Props.C15
import ChitchatModel.Props.C17
import ChitchatModel.Model.Server
import ChitchatModel.Props.C19
import ChitchatModel.Lemmas.Ledger
import ChitchatModel.Lemmas.LedgerRefine
import ChitchatModel.Lemmas.CopyWF
import ChitchatModel.Lemmas.System
import ChitchatModel.Lemmas.SystemInv
import ChitchatModel.Props.C01
import ChitchatModel.Props.C02
import ChitchatModel.Props.C03
