/-
Lemmas/Ledger.lean — the copy-level invariant of scuttlebutt replication with tombstone GC
(ALGORITHM.md made precise), on an abstract layer: copies and deltas are functions from keys to
entries; `H` is the ghost ledger of everything the owner ever wrote (index + 1 = version).
`Lemmas/LedgerRefine.lean` connects the executable model to this layer.
-/
import ChitchatModel.Model.NodeState
import ChitchatModel.Lemmas.AL
namespace Chitchat.Ledger
open Chitchat

/-- one write of the owner -/
structure Write where
  key : Bytes
  value : Bytes
  st : StatusM
  deriving DecidableEq, Repr

/-- an entry of a copy or of a delta -/
structure Ent where
  value : Bytes
  ver : Nat
  st : StatusM
  deriving DecidableEq, Repr

def tomb (st : StatusM) : Prop := st ≠ .set

instance : DecidablePred tomb := fun st => by unfold tomb; infer_instance

structure Copy where
  gc : Nat
  max : Nat
  kvs : Bytes → Option Ent

/-- The write `⟨k, value, st⟩` at version `v` is the last write to `k` in `H`. -/
def IsLast (H : List Write) (k : Bytes) (v : Nat) (value : Bytes) (st : StatusM) : Prop :=
  1 ≤ v ∧ H[v-1]? = some ⟨k, value, st⟩ ∧ ∀ v' value' st', v < v' → H[v'-1]? ≠ some ⟨k, value', st'⟩

/-- integrity part of the invariant (C03): unconditional -/
structure InvW (H : List Write) (c : Copy) : Prop where
  i1 : ∀ k e, c.kvs k = some e → 1 ≤ e.ver ∧ H[e.ver-1]? = some ⟨k, e.value, e.st⟩
  i2 : c.max ≤ H.length ∧ c.gc ≤ H.length
  i4 : ∀ k e, c.kvs k = some e → e.ver ≤ c.max

/-- the full invariant (C02 = `i3a`) -/
structure Inv (H : List Write) (c : Copy) : Prop extends InvW H c where
  i3a : ∀ k v value st, IsLast H k v value st → v ≤ c.max →
          c.kvs k = some ⟨value, v, st⟩ ∨ (c.kvs k = none ∧ tomb st ∧ v ≤ c.gc)
  i3b : ∀ k v value st, IsLast H k v value st → tomb st → c.max < v → v ≤ c.gc → c.kvs k = none

structure Delta where
  frm : Nat
  gcD : Nat
  ents : Bytes → Option Ent
  maxD : Nat
  horizon : Nat     -- ghost: max(gc, max) of the sender's copy when the delta was computed

structure DeltaOKW (H : List Write) (d : Delta) : Prop where
  d1 : ∀ k e, d.ents k = some e → 1 ≤ e.ver ∧ H[e.ver-1]? = some ⟨k, e.value, e.st⟩ ∧ d.frm < e.ver ∧ e.ver ≤ d.maxD
  d2 : d.maxD ≤ d.horizon ∧ d.gcD ≤ d.horizon ∧ d.horizon ≤ H.length

structure DeltaOK (H : List Write) (d : Delta) : Prop extends DeltaOKW H d where
  d3 : ∀ k v value st, IsLast H k v value st → d.frm < v → v ≤ d.maxD →
          d.ents k = some ⟨value, v, st⟩ ∨ (d.ents k = none ∧ tomb st ∧ v ≤ d.gcD)
  d4 : ∀ k v value st, IsLast H k v value st → tomb st → v ≤ d.horizon → d.maxD < v → d.ents k = none

/-- incremental (non-reset) application, as `apply_delta` does it -/
def applyInc (r : Copy) (d : Delta) : Copy :=
  { gc := r.gc, max := d.maxD,
    kvs := fun k =>
      match d.ents k with
      | none => r.kvs k
      | some e =>
        if e.ver ≤ r.max then r.kvs k
        else if tomb e.st ∧ e.ver ≤ r.gc then r.kvs k
        else match r.kvs k with
          | some e0 => if e.ver ≤ e0.ver then some e0 else some e
          | none => some e }

/-! ### the ledger -/

theorem ent_le_last {H k v value st} (hl : IsLast H k v value st) {ver value' st'}
    (hw : H[ver-1]? = some ⟨k, value', st'⟩) : ver ≤ v :=
  Nat.le_of_not_lt fun h => hl.2.2 ver value' st' h hw

theorem isLast_of_append {H : List Write} {w : Write} {k : Bytes} {v : Nat} {value : Bytes} {st : StatusM}
    (hl : IsLast (H ++ [w]) k v value st) (hv : v ≤ H.length) : IsLast H k v value st := by
  obtain ⟨h1, h2, h3⟩ := hl
  refine ⟨h1, ?_, fun v' value' st' hlt hget => h3 v' value' st' hlt (getElem_append_of_some hget)⟩
  rw [List.getElem?_append_left (Nat.sub_one_lt_of_le h1 hv)] at h2
  exact h2

theorem isLast_append_cases {H : List Write} {w : Write} {k : Bytes} {v : Nat} {value : Bytes} {st : StatusM}
    (hl : IsLast (H ++ [w]) k v value st) :
    (v = H.length + 1 ∧ w = ⟨k, value, st⟩) ∨ (k ≠ w.key ∧ v ≤ H.length ∧ IsLast H k v value st) := by
  have hlt := lt_length_of_get hl.2.1
  rw [List.length_append, List.length_singleton] at hlt
  rcases Nat.lt_or_ge H.length v with h | h
  · have hv : v = H.length + 1 := Nat.le_antisymm (Nat.le_of_pred_lt hlt) h
    have h2 := hl.2.1
    rw [hv, Nat.add_sub_cancel, List.getElem?_concat_length] at h2
    exact .inl ⟨hv, Option.some.inj h2⟩
  · refine .inr ⟨fun hk => ?_, h, isLast_of_append hl h⟩
    apply hl.2.2 (H.length + 1) w.value w.st (Nat.lt_succ_of_le h)
    rw [Nat.add_sub_cancel, List.getElem?_concat_length, hk]

/-! ### the invariants, entry by entry -/

theorem InvW.of_ent {H : List Write} {c : Copy}
    (he : ∀ k e, c.kvs k = some e → (1 ≤ e.ver ∧ H[e.ver-1]? = some ⟨k, e.value, e.st⟩) ∧ e.ver ≤ c.max)
    (hb : c.max ≤ H.length ∧ c.gc ≤ H.length) : InvW H c :=
  ⟨fun k e h => (he k e h).1, hb, fun k e h => (he k e h).2⟩

/-- a copy wiped by a reset (or never filled) -/
theorem wiped_inv (H : List Write) (g : Nat) (hg : g ≤ H.length) : Inv H ⟨g, 0, fun _ => none⟩ :=
  ⟨⟨fun _ _ he => (nomatch he), ⟨Nat.zero_le _, hg⟩, fun _ _ he => (nomatch he)⟩,
   fun _ v _ _ hl (hv : v ≤ 0) => absurd (Nat.le_trans hl.1 hv) (Nat.not_succ_le_zero 0),
   fun _ _ _ _ _ _ _ _ => rfl⟩

theorem emptyCopy_inv (H : List Write) : Inv H ⟨0, 0, fun _ => none⟩ := wiped_inv H 0 (Nat.zero_le _)

/-! ### incremental application -/

theorem applyInc_kvs_none {r : Copy} {d : Delta} {k : Bytes} (h : d.ents k = none) :
    (applyInc r d).kvs k = r.kvs k := by
  simp only [applyInc, h]

/-- The comparison with the copy's own entry disappears: that entry is at most `r.max` (`InvW.i4`),
so it is older than an entry the first two tests let through. -/
theorem applyInc_kvs_some {r : Copy} {d : Delta} {k : Bytes} {e : Ent} (h : d.ents k = some e)
    (h0 : ∀ e0, r.kvs k = some e0 → e0.ver ≤ r.max) :
    (applyInc r d).kvs k = if e.ver ≤ r.max ∨ (tomb e.st ∧ e.ver ≤ r.gc) then r.kvs k else some e := by
  simp only [applyInc, h]
  grind

theorem applyInc_invW_le {H : List Write} {r : Copy} {d : Delta}
    (hr : InvW H r) (hd : DeltaOKW H d) (hnew : r.max ≤ d.maxD) : InvW H (applyInc r d) := by
  refine .of_ent (fun k e he => ?_) ⟨Nat.le_trans hd.d2.1 hd.d2.2.2, hr.i2.2⟩
  -- every entry is the copy's or the delta's
  have hold := fun h : r.kvs k = some e => And.intro (hr.i1 k e h) (Nat.le_trans (hr.i4 k e h) hnew)
  cases he' : d.ents k with
  | none => exact hold (applyInc_kvs_none he' ▸ he)
  | some e' =>
    rw [applyInc_kvs_some he' (hr.i4 k)] at he
    split at he
    · exact hold he
    · cases he
      have := hd.d1 k e he'
      exact ⟨⟨this.1, this.2.1⟩, this.2.2.2⟩

theorem applyInc_invW (H : List Write) (r : Copy) (d : Delta)
    (hr : InvW H r) (hd : DeltaOKW H d) (hnew : r.max < d.maxD) : InvW H (applyInc r d) :=
  applyInc_invW_le hr hd (Nat.le_of_lt hnew)

theorem applyInc_inv_le {H : List Write} {r : Copy} {d : Delta}
    (hr : Inv H r) (hd : DeltaOK H d)
    (hfrom : d.frm ≤ r.max) (hcompat : d.gcD ≤ r.gc ∨ d.gcD ≤ r.max) (hnew : r.max ≤ d.maxD)
    (hyp : r.gc ≤ d.maxD ∨ r.gc ≤ d.horizon) :
    Inv H (applyInc r d) := by
  refine ⟨applyInc_invW_le hr.toInvW hd.toDeltaOKW hnew, ?_, ?_⟩
  · intro k v value st hl (hv : v ≤ d.maxD)
    show _ ∨ (_ ∧ _ ∧ v ≤ r.gc)
    rcases Nat.lt_or_ge r.max v with hgt | hle
    · -- a version new to the copy: the delta decides, unless the copy has collected it already
      rcases hd.d3 k v value st hl (Nat.lt_of_le_of_lt hfrom hgt) hv with hsome | ⟨hnone, ht, hg⟩
      · rw [applyInc_kvs_some hsome (hr.i4 k)]
        by_cases hsk : tomb st ∧ v ≤ r.gc
        · rw [if_pos (.inr hsk)]
          exact .inr ⟨hr.i3b k v value st hl hsk.1 hgt hsk.2, hsk⟩
        · rw [if_neg (fun h => h.elim (Nat.not_le_of_lt hgt) hsk)]
          exact .inl rfl
      · rw [applyInc_kvs_none hnone]
        have hg' : v ≤ r.gc := by omega
        exact .inr ⟨hr.i3b k v value st hl ht hgt hg', ht, hg'⟩
    · -- an old version: what the delta has for `k` is at most `v`, so nothing new
      have hold := hr.i3a k v value st hl hle
      cases he : d.ents k with
      | none => rwa [applyInc_kvs_none he]
      | some e =>
        have h1 := hd.d1 k e he
        have := ent_le_last hl h1.2.1
        rwa [applyInc_kvs_some he (hr.i4 k), if_pos (.inl (Nat.le_trans this hle))]
  · intro k v value st hl ht (hmax : d.maxD < v) (hgc : v ≤ r.gc)
    have hdk : d.ents k = none := by
      rcases hyp with h | h
      · exact absurd (Nat.le_trans hgc h) (Nat.not_le_of_lt hmax)
      · exact hd.d4 k v value st hl ht (Nat.le_trans hgc h) hmax
    rw [applyInc_kvs_none hdk]
    exact hr.i3b k v value st hl ht (Nat.lt_of_le_of_lt hnew hmax) hgc

/-- **Incremental apply preserves the invariant**, provided the receiver's watermark is not above
both the delta's max version and the sender's horizon (the negation of the KF-1 pattern). -/
theorem applyInc_inv (H : List Write) (r : Copy) (d : Delta)
    (hr : Inv H r) (hd : DeltaOK H d)
    (hfrom : d.frm ≤ r.max) (hcompat : d.gcD ≤ r.gc ∨ d.gcD ≤ r.max) (hnew : r.max < d.maxD)
    (hyp : r.gc ≤ d.maxD ∨ r.gc ≤ d.horizon) :
    Inv H (applyInc r d) :=
  applyInc_inv_le hr hd hfrom hcompat (Nat.le_of_lt hnew) hyp

/-! ### reset application: an incremental application to the wiped copy -/

def applyReset (d : Delta) : Copy :=
  { gc := d.gcD, max := d.maxD,
    kvs := fun k => match d.ents k with
      | none => none
      | some e => if tomb e.st ∧ e.ver ≤ d.gcD then none else some e }

theorem applyReset_eq_applyInc {d : Delta} (hpos : ∀ k e, d.ents k = some e → 1 ≤ e.ver) :
    applyReset d = applyInc ⟨d.gcD, 0, fun _ => none⟩ d := by
  simp only [applyReset, applyInc, Copy.mk.injEq, true_and]
  funext k
  split
  · rfl
  · rename_i e he
    have : ¬ e.ver ≤ 0 := Nat.not_le_of_lt (hpos k e he)
    rw [if_neg this]

theorem applyReset_invW (H : List Write) (d : Delta) (hd : DeltaOKW H d) : InvW H (applyReset d) := by
  rw [applyReset_eq_applyInc fun k e he => (hd.d1 k e he).1]
  exact applyInc_invW_le (wiped_inv H _ (Nat.le_trans hd.d2.2.1 hd.d2.2.2)).toInvW hd (Nat.zero_le _)

theorem applyReset_inv (H : List Write) (d : Delta) (hd : DeltaOK H d) (hf : d.frm = 0) :
    Inv H (applyReset d) := by
  rw [applyReset_eq_applyInc fun k e he => (hd.d1 k e he).1]
  exact applyInc_inv_le (wiped_inv H _ (Nat.le_trans hd.d2.2.1 hd.d2.2.2)) hd (Nat.le_of_eq hf)
    (.inl (Nat.le_refl _)) (Nat.zero_le _) (.inr hd.d2.2.1)

/-! ### delta creation from a copy -/

def mkDelta (s : Copy) (frm maxD : Nat) : Delta :=
  { frm := frm, gcD := s.gc, maxD := maxD, horizon := max s.gc s.max,
    ents := fun k => match s.kvs k with
      | some e => if frm < e.ver ∧ e.ver ≤ maxD then some e else none
      | none => none }

theorem mkDelta_okW (H : List Write) (s : Copy) (frm maxD : Nat)
    (hs : InvW H s) (hmax : maxD ≤ s.max) : DeltaOKW H (mkDelta s frm maxD) := by
  refine ⟨fun k e he => ?_, ?_⟩
  · simp only [mkDelta] at he ⊢
    obtain ⟨hk, hc⟩ : s.kvs k = some e ∧ frm < e.ver ∧ e.ver ≤ maxD := by grind
    exact ⟨(hs.i1 k e hk).1, (hs.i1 k e hk).2, hc⟩
  · exact ⟨Nat.le_trans hmax (Nat.le_max_right _ _), Nat.le_max_left _ _, Nat.max_le.2 ⟨hs.i2.2, hs.i2.1⟩⟩

theorem mkDelta_ok (H : List Write) (s : Copy) (frm maxD : Nat)
    (hs : Inv H s) (hmax : maxD ≤ s.max) : DeltaOK H (mkDelta s frm maxD) := by
  refine ⟨mkDelta_okW H s frm maxD hs.toInvW hmax, ?_, ?_⟩
  · intro k v value st hl (hf : frm < v) (hv : v ≤ maxD)
    show (mkDelta s frm maxD).ents k = _ ∨ ((mkDelta s frm maxD).ents k = none ∧ _ ∧ v ≤ s.gc)
    simp only [mkDelta]
    rcases hs.i3a k v value st hl (Nat.le_trans hv hmax) with h | ⟨h, ht, hg⟩
    · rw [h]
      exact .inl (if_pos ⟨hf, hv⟩)
    · rw [h]
      exact .inr ⟨rfl, ht, hg⟩
  · intro k v value st hl ht (hh : v ≤ max s.gc s.max) (hv : maxD < v)
    simp only [mkDelta]
    rcases Nat.lt_or_ge s.max v with hgt | hle
    · rw [hs.i3b k v value st hl ht hgt (le_of_le_max_of_lt hh hgt)]
    · rcases hs.i3a k v value st hl hle with h | ⟨h, _, _⟩
      · rw [h]
        exact if_neg fun (hc : frm < v ∧ v ≤ maxD) => Nat.not_le_of_lt hv hc.2
      · rw [h]

/-! ### tombstone GC of an arbitrary set of keys -/

def gcCopy (c : Copy) (drop : Bytes → Bool) (g : Nat) : Copy :=
  { gc := g, max := c.max, kvs := fun k => if drop k then none else c.kvs k }

theorem gcCopy_kvs (c : Copy) (drop : Bytes → Bool) (g : Nat) (k : Bytes) :
    (gcCopy c drop g).kvs k = if drop k then none else c.kvs k := rfl

theorem gcCopy_invW (H : List Write) (c : Copy) (drop : Bytes → Bool) (g : Nat) (hc : InvW H c)
    (hle : g ≤ max c.gc c.max) : InvW H (gcCopy c drop g) := by
  refine .of_ent (fun k e he => ?_) ⟨hc.i2.1, Nat.le_trans hle (Nat.max_le.2 ⟨hc.i2.2, hc.i2.1⟩)⟩
  rw [gcCopy_kvs] at he
  split at he
  · cases he
  · exact ⟨hc.i1 k e he, hc.i4 k e he⟩

theorem gcCopy_inv (H : List Write) (c : Copy) (drop : Bytes → Bool) (g : Nat) (hc : Inv H c)
    (hge : c.gc ≤ g) (hle : g ≤ max c.gc c.max)
    (hdrop : ∀ k, drop k = true → ∃ e, c.kvs k = some e ∧ tomb e.st ∧ e.ver ≤ g) :
    Inv H (gcCopy c drop g) := by
  refine ⟨gcCopy_invW H c drop g hc.toInvW hle, ?_, ?_⟩
  · intro k v value st hl (hv : v ≤ c.max)
    show _ ∨ (_ ∧ _ ∧ v ≤ g)
    rw [gcCopy_kvs]
    rcases hc.i3a k v value st hl hv with h | ⟨h, ht, hg⟩
    · split
      · rename_i hdk
        obtain ⟨e, hke, hte, hve⟩ := hdrop k hdk
        rw [h] at hke
        cases hke
        exact .inr ⟨rfl, hte, hve⟩
      · exact .inl h
    · exact .inr ⟨by rw [h, ite_self], ht, Nat.le_trans hg hge⟩
  · intro k v value st hl ht (hmax : c.max < v) (hgc : v ≤ g)
    rw [gcCopy_kvs]
    split
    · rfl
    · exact hc.i3b k v value st hl ht hmax (le_of_le_max_of_lt (Nat.le_trans hgc hle) hmax)

/-! ### the owner writes: every other copy and every in-flight delta stays valid -/

theorem invW_append (H : List Write) (w : Write) (c : Copy) (hc : InvW H c) : InvW (H ++ [w]) c := by
  refine ⟨fun k e he => ?_, ?_, hc.i4⟩
  · have := hc.i1 k e he
    exact ⟨this.1, getElem_append_of_some this.2⟩
  · exact ⟨Nat.le_trans hc.i2.1 (length_le_append H w), Nat.le_trans hc.i2.2 (length_le_append H w)⟩

theorem inv_append (H : List Write) (w : Write) (c : Copy) (hc : Inv H c) : Inv (H ++ [w]) c := by
  have := hc.i2
  exact ⟨invW_append H w c hc.toInvW,
    fun k v value st hl hv => hc.i3a k v value st (isLast_of_append hl (Nat.le_trans hv this.1)) hv,
    fun k v value st hl ht hmax hgc =>
      hc.i3b k v value st (isLast_of_append hl (Nat.le_trans hgc this.2)) ht hmax hgc⟩

theorem deltaOKW_append (H : List Write) (w : Write) (d : Delta) (hd : DeltaOKW H d) :
    DeltaOKW (H ++ [w]) d := by
  refine ⟨fun k e he => ?_, ?_⟩
  · have := hd.d1 k e he
    exact ⟨this.1, getElem_append_of_some this.2.1, this.2.2⟩
  · exact ⟨hd.d2.1, hd.d2.2.1, Nat.le_trans hd.d2.2.2 (length_le_append H w)⟩

theorem deltaOK_append (H : List Write) (w : Write) (d : Delta) (hd : DeltaOK H d) :
    DeltaOK (H ++ [w]) d := by
  have := hd.d2
  exact ⟨deltaOKW_append H w d hd.toDeltaOKW,
    fun k v value st hl hf hv =>
      hd.d3 k v value st (isLast_of_append hl (Nat.le_trans hv (Nat.le_trans this.1 this.2.2))) hf hv,
    fun k v value st hl ht hh hv =>
      hd.d4 k v value st (isLast_of_append hl (Nat.le_trans hh this.2.2)) ht hh hv⟩

/-! ### the owner's own copy -/

/-- an owner write: the new entry gets version `o.max + 1`, which is `|H| + 1` on the owner's own
copy (`ownerWrite_inv` assumes `o.max = |H|`) -/
def ownerWrite (o : Copy) (w : Write) : Copy :=
  { gc := o.gc, max := o.max + 1,
    kvs := fun k => if k = w.key then some ⟨w.value, o.max + 1, w.st⟩ else o.kvs k }

theorem ownerWrite_inv (H : List Write) (o : Copy) (w : Write) (ho : Inv H o) (hfull : o.max = H.length) :
    Inv (H ++ [w]) (ownerWrite o w) := by
  have hlen : (H ++ [w]).length = H.length + 1 := List.length_append
  refine ⟨.of_ent (fun k e he => ?_) ?_, ?_, ?_⟩
  · simp only [ownerWrite] at he ⊢
    split at he
    · rename_i hk
      cases he
      subst hk
      exact ⟨⟨Nat.le_add_left _ _, by rw [hfull, Nat.add_sub_cancel, List.getElem?_concat_length]⟩, Nat.le_refl _⟩
    · have := ho.i1 k e he
      exact ⟨⟨this.1, getElem_append_of_some this.2⟩, Nat.le_succ_of_le (ho.i4 k e he)⟩
  · rw [hlen]
    exact ⟨Nat.succ_le_succ ho.i2.1, Nat.le_succ_of_le ho.i2.2⟩
  · intro k v value st hl _
    simp only [ownerWrite]
    rcases isLast_append_cases hl with ⟨hv, hw⟩ | ⟨hk, hv, hl'⟩
    · subst hw
      rw [if_pos rfl, hfull, hv]
      exact .inl rfl
    · rw [if_neg hk]
      exact ho.i3a k v value st hl' (hfull ▸ hv)
  · intro k v value st hl _ (hmax : o.max + 1 < v)
    have := lt_length_of_get hl.2.1
    rw [hlen, ← hfull] at this
    exact absurd (Nat.le_of_pred_lt this) (Nat.not_le_of_lt hmax)

/-- the owner's own copy is full: nothing is ahead of it -/
theorem owner_rejects (H : List Write) (o : Copy) (d : Delta) (hd : DeltaOKW H d) (ho : o.max = H.length) :
    ¬ (o.max < d.maxD) ∧ d.gcD ≤ o.max := by
  have := hd.d2
  rw [ho]
  exact ⟨Nat.not_lt_of_le (Nat.le_trans this.1 this.2.2), Nat.le_trans this.2.1 this.2.2⟩

end Chitchat.Ledger
