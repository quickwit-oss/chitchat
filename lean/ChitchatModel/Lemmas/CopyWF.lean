/-
Lemmas/CopyWF.lean — the representation invariant of a replicated copy (keys sorted, entry versions pairwise
distinct and at most the max version) is preserved by `apply_delta`, the owner's writes, heartbeat reports
and tombstone GC; the node deltas a sender computes from such a copy are well formed.
-/
import ChitchatModel.Lemmas.Local
import ChitchatModel.Lemmas.Sender
namespace Chitchat
open NodeState

structure WFCopy (s : NodeState) : Prop where
  sorted : SortedKeys s.kvs
  distinct : DistinctVersions s
  leMax : EntriesLeMax s

theorem WFCopy.wfLocal {s : NodeState} (h : WFCopy s) : WFLocal s := ⟨h.sorted, h.leMax⟩

theorem wfCopy_empty (hb g : Nat) : WFCopy ⟨hb, [], 0, g⟩ :=
  ⟨List.Pairwise.nil, fun _ hp => (nomatch hp), fun _ _ h => (nomatch h)⟩

/-- `hinc` holds of every decodable node delta (`NodeDelta.WF.increasing`). -/
theorem wfCopy_applyDelta {r r' : NodeState} {nd : NodeDelta} {now : Nat} {st : DeltaStatus} {evs : List Event}
    (hr : WFCopy r) (hinc : nd.kvs.Pairwise (fun a b => a.version < b.version))
    (h : r.applyDelta nd now = .ok (r', st, evs)) : WFCopy r' := by
  obtain ⟨_, hrej, hok⟩ := applyDelta_spec h
  by_cases hst : st = .reject
  · rw [hrej hst]
    exact hr
  · obtain ⟨hmax, rfl⟩ := hok hst
    have hbase : WFCopy (r.applyBase nd) := by
      unfold applyBase
      split
      · exact wfCopy_empty _ _
      · exact hr
    have hsort := storeAll_sorted (stored r nd now) hbase.sorted
    -- an entry afterwards is an entry of the base, or a key-value of the delta above the base's max version
    have horigin : ∀ p ∈ ((r.applyBase nd).storeAll (stored r nd now)).kvs,
        (AL.lookup p.1 (r.applyBase nd).kvs = some p.2 ∧ p ∈ (r.applyBase nd).kvs) ∨
          ∃ kv ∈ nd.kvs, (r.applyBase nd).maxVersion < kv.version ∧
            p = (kv.key, ⟨kv.value, kv.version, kv.status.intoStatus now⟩) := by
      intro p hp
      rcases storeAll_origin (AL.lookup_of_mem_nodup hsort.nodup hp) with h1 | h1
      · exact .inl ⟨h1, AL.mem_of_lookup h1⟩
      · obtain ⟨kv, hkv, hgt, _, heq⟩ := mem_stored.1 h1
        exact .inr ⟨kv, hkv, Nat.lt_of_not_le hgt, heq⟩
    refine ⟨hsort, ?_, ?_⟩
    · intro p hp q hq hv
      rcases horigin p hp with ⟨op, mp⟩ | ⟨x, hx, hxc, rfl⟩ <;> rcases horigin q hq with ⟨oq, mq⟩ | ⟨y, hy, hyc, rfl⟩
      · exact hbase.distinct p mp q mq hv
      · exact absurd hv (Nat.ne_of_lt (Nat.lt_of_le_of_lt (hbase.leMax p.1 p.2 op) hyc))
      · exact absurd hv (Nat.ne_of_gt (Nat.lt_of_le_of_lt (hbase.leMax q.1 q.2 oq) hxc))
      · -- both come from the delta: same version → same key-value
        rw [inj_of_increasing hinc hx hy hv]
    · intro k v hv
      exact Nat.le_trans (storeAll_entriesLeMax _ hbase.leMax k v hv) hmax

/-- The new version is above every stored one, hence distinct from them. -/
theorem wfCopy_bump {s : NodeState} (h : WFCopy s) (key value : Bytes) (st : Status) :
    WFCopy (bump s key value st) := by
  have hl := wfLocal_bump h.wfLocal key value st
  refine ⟨hl.sorted, ?_, hl.leMax⟩
  have hlt : ∀ q ∈ s.kvs, q.2.version < s.maxVersion + 1 := fun q hq =>
    Nat.lt_succ_of_le (h.leMax q.1 q.2 (AL.lookup_of_mem_nodup h.sorted.nodup hq))
  intro p hp q hq hv
  rcases AL.eq_or_mem_of_mem_insert hp with rfl | hp <;> rcases AL.eq_or_mem_of_mem_insert hq with rfl | hq
  · rfl
  · exact absurd hv (Nat.ne_of_gt (hlt q hq))
  · exact absurd hv (Nat.ne_of_lt (hlt p hp))
  · exact h.distinct p hp q hq hv

theorem wfCopy_set {s : NodeState} (h : WFCopy s) (k v : Bytes) : WFCopy (s.set k v).1 := by
  rcases set_eq s k v h.leMax with e | e <;> rw [e]
  · exact h
  · exact wfCopy_bump h ..

theorem wfCopy_delete (s : NodeState) (k : Bytes) (now : Nat) (h : WFCopy s) : WFCopy (s.delete k now) := by
  rcases delete_eq s k now with e | e <;> rw [e]
  · exact h
  · exact wfCopy_bump h ..

theorem wfCopy_heartbeat {s : NodeState} (h : WFCopy s) (hb : Nat) : WFCopy { s with heartbeat := hb } :=
  ⟨h.sorted, h.distinct, h.leMax⟩

theorem wfCopy_trySetHeartbeat {s : NodeState} (h : WFCopy s) (hb : Nat) : WFCopy (s.trySetHeartbeat hb).1 := by
  rw [trySetHeartbeat_fst]; exact wfCopy_heartbeat h _

theorem wfCopy_gcKeys {s : NodeState} (h : WFCopy s) (now grace : Nat) : WFCopy (s.gcKeys now grace) := by
  have hl := wfLocal_gcKeys h.wfLocal now grace
  exact ⟨hl.sorted, fun p hp q hq hv => h.distinct p (List.mem_filter.1 hp).1 q (List.mem_filter.1 hq).1 hv,
    hl.leMax⟩

/-! ### sender deltas of a well-formed copy are well formed -/

section
open ClusterState

theorem senderNodeDelta_wf (s : NodeState) (f n : Nat) (b : Bool) (hs : WFCopy s) :
    (senderNodeDelta s f n b).WF ∧ ((senderNodeDelta s f n b).kvs.map (·.key)).Nodup ∧
    (∀ kv ∈ (senderNodeDelta s f n b).kvs, 1 ≤ kv.version) := by
  refine ⟨⟨?_, senderNodeDelta_kvsLeMax s f n b⟩, ?_, ?_⟩
  · simp only [senderNodeDelta]
    rw [List.pairwise_map]
    exact (staleKvs_strict s f hs.sorted hs.distinct).sublist (List.take_sublist n _)
  · simp only [senderNodeDelta, List.map_map]
    exact (staleKvs_keys_nodup s f hs.sorted).sublist ((List.take_sublist n _).map _)
  · intro kv hkv
    exact Nat.zero_lt_of_lt (senderNodeDelta_kvs_gt s f n b kv hkv)

theorem senderNodeDelta_max_le (s : NodeState) (f n : Nat) (b : Bool) (hs : WFLocal s) :
    (senderNodeDelta s f n b).maxVersion ≤ s.maxVersion := by
  rcases senderNodeDelta_max_cases s f n b with ⟨y, hl, e⟩ | ⟨_, e⟩
  · obtain ⟨p, hp, rfl⟩ := List.mem_map.1 (List.mem_of_getLast? hl)
    rw [e]
    exact hs.leMax p.1 p.2 (hs.mem_iff.1 (mem_staleKvs.1 (List.mem_of_mem_take hp)).1)
  · rw [e]; split <;> omega

end

end Chitchat
