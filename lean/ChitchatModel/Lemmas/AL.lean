/-
Lemmas/AL.lean — facts about lists and numbers that core Lean does not state in this form; association
lists: the map laws of `lookup` / `insert` / `erase` (no sortedness needed), and lists strictly sorted by a
strict total order on the keys (what `BTreeMap` gives the Rust code for free), whose keys are distinct.
-/
import ChitchatModel.Model.Basic
namespace Chitchat

theorem lt_length_of_get {α : Type} {l : List α} {i : Nat} {x : α} (h : l[i]? = some x) : i < l.length :=
  (List.getElem?_eq_some_iff.1 h).1

theorem getElem_append_of_some {α : Type} {l : List α} {w x : α} {i : Nat} (h : l[i]? = some x) :
    (l ++ [w])[i]? = some x :=
  (List.getElem?_append_left (lt_length_of_get h)).trans h

theorem length_le_append {α : Type} (l : List α) (w : α) : l.length ≤ (l ++ [w]).length :=
  (List.sublist_append_left l [w]).length_le

theorem forall_mem_set {α : Type} {P : α → Prop} {l : List α} {x : α} (hl : ∀ y ∈ l, P y) (hx : P x)
    (i : Nat) : ∀ y ∈ l.set i x, P y :=
  fun y hy => (List.mem_or_eq_of_mem_set hy).elim (hl y) (· ▸ hx)

theorem forall_mem_concat {α : Type} {P : α → Prop} {l : List α} {x : α} (hl : ∀ y ∈ l, P y) (hx : P x) :
    ∀ y ∈ l ++ [x], P y :=
  List.forall_mem_append.2 ⟨hl, List.forall_mem_singleton.2 hx⟩

theorem getElemOpt_set_cases {α : Type} {l : List α} {j k : Nat} {x y : α} (h : (l.set j x)[k]? = some y) :
    (k = j ∧ y = x) ∨ (k ≠ j ∧ l[k]? = some y) := by
  by_cases hkj : k = j
  · subst hkj
    obtain ⟨hk, rfl⟩ := List.getElem?_eq_some_iff.1 h
    exact Or.inl ⟨rfl, List.getElem_set_self _⟩
  · rw [List.getElem?_set_ne (Ne.symm hkj)] at h
    exact Or.inr ⟨hkj, h⟩

theorem le_of_le_max_of_lt {v g m : Nat} (h : v ≤ max g m) (hm : m < v) : v ≤ g :=
  (Std.le_max.1 h).resolve_right (Nat.not_le_of_lt hm)

theorem sum_map_le {α : Type} (f g : α → Nat) (l : List α) (h : ∀ x ∈ l, f x ≤ g x) :
    (l.map f).sum ≤ (l.map g).sum := by
  induction l with
  | nil => exact Nat.le_refl _
  | cons a t ih =>
    exact Nat.add_le_add (h a List.mem_cons_self) (ih fun x hx => h x (List.mem_cons_of_mem _ hx))

theorem sum_map_lt {α : Type} (f g : α → Nat) (l : List α) (h : ∀ x ∈ l, f x ≤ g x)
    (hex : ∃ x ∈ l, f x < g x) : (l.map f).sum < (l.map g).sum := by
  obtain ⟨x, hx, hlt⟩ := hex
  induction l with
  | nil => cases hx
  | cons a t ih =>
    have ht := fun y hy => h y (List.mem_cons_of_mem a hy)
    rcases List.mem_cons.1 hx with rfl | hx'
    · exact Nat.add_lt_add_of_lt_of_le hlt (sum_map_le f g t ht)
    · exact Nat.add_lt_add_of_le_of_lt (h a List.mem_cons_self) (ih ht hx')

theorem sum_le_of_all_le (l : List Nat) (b : Nat) (h : ∀ x ∈ l, x ≤ b) : l.sum ≤ l.length * b := by
  have := sum_map_le id (fun _ => b) l h
  rwa [List.map_id, List.map_const', List.sum_replicate_nat] at this

theorem sum_ge_of_all_ge (l : List Nat) (a : Nat) (h : ∀ x ∈ l, a ≤ x) : l.length * a ≤ l.sum := by
  have := sum_map_le (fun _ => a) id l h
  rwa [List.map_id, List.map_const', List.sum_replicate_nat] at this

end Chitchat

namespace Chitchat.AL

variable {κ : Type} {α : Type} [DecidableEq κ]

@[simp] theorem lookup_nil (k : κ) : lookup k ([] : List (κ × α)) = none := rfl

theorem lookup_cons (k k' : κ) (v : α) (t : List (κ × α)) :
    lookup k ((k', v) :: t) = if k = k' then some v else lookup k t := rfl

theorem insert_cons (lt : κ → κ → Bool) (k k' : κ) (v v' : α) (t : List (κ × α)) :
    insert lt k v ((k', v') :: t) =
      if k = k' then (k, v) :: t
      else if lt k k' then (k, v) :: (k', v') :: t
      else (k', v') :: insert lt k v t := rfl

theorem lookup_insert (lt : κ → κ → Bool) (k k2 : κ) (v : α) (m : List (κ × α)) :
    lookup k2 (insert lt k v m) = if k2 = k then some v else lookup k2 m := by
  induction m with
  | nil => rfl
  | cons p t ih => grind [insert_cons, lookup_cons]

theorem lookup_insert_self (lt : κ → κ → Bool) (k : κ) (v : α) (m : List (κ × α)) :
    lookup k (insert lt k v m) = some v := by
  rw [lookup_insert, if_pos rfl]

theorem lookup_insert_ne (lt : κ → κ → Bool) (k k2 : κ) (v : α) (m : List (κ × α)) (h : k2 ≠ k) :
    lookup k2 (insert lt k v m) = lookup k2 m := by
  rw [lookup_insert, if_neg h]

theorem lookup_filter_key (p : κ → Bool) (k : κ) (m : List (κ × α)) :
    lookup k (m.filter (fun e => p e.1)) = if p k then lookup k m else none := by
  induction m with
  | nil => exact (ite_self none).symm
  | cons e t ih =>
    obtain ⟨k', v'⟩ := e
    rw [List.filter_cons, lookup_cons]
    grind [lookup_cons]

theorem lookup_erase (k k2 : κ) (m : List (κ × α)) :
    lookup k2 (erase k m) = if k2 = k then none else lookup k2 m := by
  unfold erase
  rw [lookup_filter_key (fun x => !(x == k)) k2 m]
  by_cases h : k2 = k <;> simp [h]

theorem lookup_mapVal {β : Type} (f : κ → α → β) (k : κ) (m : List (κ × α)) :
    lookup k (m.map (fun p => (p.1, f p.1 p.2))) = (lookup k m).map (f k) := by
  induction m with
  | nil => rfl
  | cons e t ih => grind [lookup_cons]

theorem mem_of_lookup {k : κ} {v : α} {m : List (κ × α)} (h : lookup k m = some v) : (k, v) ∈ m := by
  induction m with
  | nil => cases h
  | cons e t ih => grind [lookup_cons]

theorem lookup_isSome_iff (k : κ) (m : List (κ × α)) : (lookup k m).isSome = true ↔ k ∈ m.map (·.1) := by
  induction m with
  | nil => simp
  | cons e t ih =>
    obtain ⟨k', v'⟩ := e
    rw [lookup_cons, List.map_cons, List.mem_cons, ← ih]
    grind

theorem lookup_eq_none {k : κ} {m : List (κ × α)} (h : k ∉ m.map (·.1)) : lookup k m = none := by
  rw [← lookup_isSome_iff] at h
  simpa using h

theorem lookup_foldl_insert (lt : κ → κ → Bool) {l : List (κ × α)} (hn : (l.map (·.1)).Nodup)
    (acc : List (κ × α)) (k : κ) :
    lookup k (l.foldl (fun a p => insert lt p.1 p.2 a) acc) = (lookup k l).or (lookup k acc) := by
  induction l generalizing acc with
  | nil => rfl
  | cons p t ih =>
    obtain ⟨k', v⟩ := p
    rw [List.map_cons, List.nodup_cons] at hn
    rw [List.foldl_cons, ih hn.2, lookup_insert, lookup_cons]
    by_cases hk : k = k'
    · subst hk
      rw [if_pos rfl, if_pos rfl, lookup_eq_none hn.1]
      rfl
    · rw [if_neg hk, if_neg hk]

theorem eq_or_mem_of_mem_insert {lt : κ → κ → Bool} {k : κ} {v : α} {m : List (κ × α)} {e : κ × α}
    (h : e ∈ insert lt k v m) : e = (k, v) ∨ e ∈ m := by
  induction m with
  | nil => exact Or.inl (List.mem_singleton.1 h)
  | cons p t ih =>
    obtain ⟨k', v'⟩ := p
    rw [insert_cons] at h
    grind

theorem lookup_of_mem_nodup {k : κ} {v : α} {m : List (κ × α)} (hn : (m.map (·.1)).Nodup)
    (h : (k, v) ∈ m) : lookup k m = some v := by
  induction m with
  | nil => cases h
  | cons e t ih =>
    obtain ⟨k', v'⟩ := e
    rw [List.map_cons, List.nodup_cons] at hn
    rcases List.mem_cons.1 h with h1 | h2
    · cases h1
      exact if_pos rfl
    · have hne : k ≠ k' := fun hk => hn.1 (hk ▸ List.mem_map_of_mem (f := (·.1)) h2)
      rw [lookup_cons, if_neg hne]
      exact ih hn.2 h2

theorem lookup_filter_of_nodup {q : κ × α → Bool} {k : κ} {m : List (κ × α)} (hn : (m.map (·.1)).Nodup) :
    lookup k (m.filter q) =
      match lookup k m with
      | some v => if q (k, v) then some v else none
      | none => none := by
  induction m with
  | nil => rfl
  | cons p t ih =>
    obtain ⟨k', v'⟩ := p
    simp only [List.map_cons, List.nodup_cons] at hn
    rw [lookup_cons, List.filter_cons]
    by_cases hk : k = k'
    · subst hk
      rw [if_pos rfl]
      show _ = if q (k, v') = true then some v' else none
      by_cases hq : q (k, v') = true
      · rw [if_pos hq, if_pos hq, lookup_cons, if_pos rfl]
      · rw [if_neg hq, if_neg hq, ih hn.2, lookup_eq_none hn.1]
    · rw [if_neg hk]
      by_cases hq : q (k', v') = true
      · rw [if_pos hq, lookup_cons, if_neg hk, ih hn.2]
      · rw [if_neg hq, ih hn.2]

theorem lookup_keyed_eq_find {β : Type} [BEq κ] [LawfulBEq κ] (key : β → κ) (l : List β) (k : κ) :
    lookup k (l.map fun a => (key a, a)) = l.find? (fun a => key a == k) := by
  induction l with
  | nil => rfl
  | cons a t ih =>
    rw [List.map_cons, lookup_cons, List.find?_cons, ih]
    by_cases h : k = key a
    · simp [h]
    · have : (key a == k) = false := by simpa using Ne.symm h
      simp [h, this]

theorem lookup_eq_find [BEq κ] [LawfulBEq κ] (k : κ) (l : List (κ × α)) :
    lookup k l = (l.find? (fun p => p.1 == k)).map (·.2) := by
  rw [← lookup_keyed_eq_find, ← lookup_mapVal (fun _ (p : κ × α) => p.2), List.map_map]
  exact congrArg _ (List.map_id' _).symm

theorem find_of_mem_nodup {β : Type} [BEq κ] [LawfulBEq κ] {key : β → κ} {l : List β} (hn : (l.map key).Nodup)
    {x : β} (h : x ∈ l) : l.find? (fun a => key a == key x) = some x := by
  rw [← lookup_keyed_eq_find]
  exact lookup_of_mem_nodup (by rwa [List.map_map]) (List.mem_map.2 ⟨x, h, rfl⟩)

theorem lookup_map_filter {β γ : Type} [BEq κ] [LawfulBEq κ] (key : β → κ) (f : β → γ) (q : β → Bool) (l : List β)
    (hn : (l.map key).Nodup) (k : κ) :
    lookup k ((l.filter q).map (fun a => (key a, f a))) =
      match l.find? (fun a => key a == k) with
      | some a => if q a then some (f a) else none
      | none => none := by
  have e : (l.filter q).map (fun a => (key a, f a)) =
      ((l.map fun a => (key a, a)).filter (fun p => q p.2)).map (fun p => (p.1, f p.2)) := by
    rw [List.filter_map, List.map_map]; rfl
  rw [e, lookup_mapVal (fun _ a => f a), lookup_filter_of_nodup (by rwa [List.map_map]),
    lookup_keyed_eq_find]
  cases l.find? (fun a => key a == k) with
  | none => rfl
  | some a => dsimp only; cases q a <;> rfl

theorem lookup_congr {l l' : List (κ × α)} (hn : (l.map (·.1)).Nodup)
    (hn' : (l'.map (·.1)).Nodup) (h : ∀ p, p ∈ l ↔ p ∈ l') (k : κ) : AL.lookup k l = AL.lookup k l' := by
  cases hl : AL.lookup k l with
  | some v => exact (AL.lookup_of_mem_nodup hn' ((h _).1 (AL.mem_of_lookup hl))).symm
  | none =>
    cases hl' : AL.lookup k l' with
    | none => rfl
    | some v =>
      rw [AL.lookup_of_mem_nodup hn ((h _).2 (AL.mem_of_lookup hl'))] at hl
      cases hl

end Chitchat.AL

namespace Chitchat

/-! ### Lists sorted by a strict total order on the keys -/

structure StrictTotal {κ : Type} (lt : κ → κ → Bool) : Prop where
  irrefl : ∀ a, lt a a = false
  trans : ∀ a b c, lt a b = true → lt b c = true → lt a c = true
  total : ∀ a b, a ≠ b → lt a b = false → lt b a = true

/-- strictly sorted by key -/
def SortedBy {κ α : Type} (lt : κ → κ → Bool) (m : List (κ × α)) : Prop :=
  m.Pairwise (fun a b => lt a.1 b.1 = true)

theorem SortedBy.nodup {κ α : Type} {lt : κ → κ → Bool} (hlt : StrictTotal lt) {m : List (κ × α)}
    (h : SortedBy lt m) : (m.map (·.1)).Nodup := by
  rw [List.nodup_iff_pairwise_ne, List.pairwise_map]
  apply h.imp
  intro a b hab e
  rw [e, hlt.irrefl] at hab; cases hab

theorem sortedBy_insert {κ α : Type} [DecidableEq κ] {lt : κ → κ → Bool} (hlt : StrictTotal lt)
    (k : κ) (v : α) {m : List (κ × α)} (h : SortedBy lt m) : SortedBy lt (AL.insert lt k v m) := by
  induction m with
  | nil => exact List.pairwise_singleton _ _
  | cons p t ih =>
    obtain ⟨k', v'⟩ := p
    have ⟨hp, ht⟩ := List.pairwise_cons.1 h
    rw [AL.insert_cons]
    by_cases hk : k = k'
    · subst hk
      rw [if_pos rfl]
      exact List.pairwise_cons.2 ⟨hp, ht⟩
    · rw [if_neg hk]
      by_cases hl : lt k k' = true
      · rw [if_pos hl]
        exact List.pairwise_cons.2
          ⟨List.forall_mem_cons.2 ⟨hl, fun b hb => hlt.trans _ _ _ hl (hp b hb)⟩, h⟩
      · rw [if_neg hl]
        have hgt : lt k' k = true := hlt.total k k' hk (eq_false_of_ne_true hl)
        exact List.pairwise_cons.2
          ⟨fun b hb => (AL.eq_or_mem_of_mem_insert hb).elim (· ▸ hgt) (hp b), ih ht⟩

end Chitchat
