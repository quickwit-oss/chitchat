/-
Lemmas/Progress.lean — a reply always makes progress on its first member: if the budget admits the
header of the first member in staleness order plus one more op, that member's node delta carries a
key-value or the `SetMaxVersion` op (so the receiver's copy strictly advances, by C14).
-/
import ChitchatModel.Lemmas.EmitOk
namespace Chitchat
open ClusterState NodeState

/-- "this member's node delta carries something" -/
def Carries (b : DeltaBuilder) (i : Id) : Prop := ∃ nd, (i, nd) ∈ b.all ∧ 0 < nd.maxVersion

theorem carries_of_current {b : DeltaBuilder} {i : Id} {nd : NodeDelta} (h : b.current = some (i, nd))
    (hpos : 0 < nd.maxVersion) : Carries b i :=
  ⟨nd, by simp [DeltaBuilder.all, h], hpos⟩

/-- Replacing the node delta in progress by one (for the same member) with at least its max version. -/
theorem carries_update {b b' : DeltaBuilder} {i j : Id} {nd0 nd1 : NodeDelta} (hcur : b.current = some (j, nd0))
    (hd : b'.done = b.done) (hcur' : b'.current = some (j, nd1)) (hle : nd0.maxVersion ≤ nd1.maxVersion) :
    Carries b i → Carries b' i := by
  rintro ⟨nd, hmem, hpos⟩
  have hall' : b'.all = b.done ++ [(j, nd1)] := by rw [DeltaBuilder.all, hd, hcur']
  rw [DeltaBuilder.all, hcur, List.mem_append, List.mem_singleton] at hmem
  rw [Carries, hall']
  rcases hmem with hm | hm
  · exact ⟨nd, List.mem_append_left _ hm, hpos⟩
  · cases hm
    exact ⟨nd1, List.mem_append_right _ List.mem_cons_self, Nat.lt_of_lt_of_le hpos hle⟩

theorem carries_applyOp {b b' : DeltaBuilder} {op : DeltaOp} {i : Id}
    (h : b.applyOp op = some b') (hc : Carries b i) : Carries b' i := by
  revert h
  fun_cases b.applyOp op <;> intro h <;> cases h
  · rename_i b1 _
    obtain ⟨nd, hmem, hpos⟩ := hc
    refine ⟨nd, ?_, hpos⟩
    simp only [b1, DeltaBuilder.flush_eq, DeltaBuilder.all_some]
    exact List.mem_append_left _ hmem
  · rename_i hcur hlt
    exact carries_update hcur rfl rfl (Nat.le_of_lt hlt) hc
  · rename_i hcur hle
    exact carries_update hcur rfl rfl hle hc

theorem carries_tryAddOp {C : Compressor} {ds : DeltaSerializer} {op : DeltaOp} {r : Option DeltaSerializer}
    {i : Id} (h : ds.tryAddOp C op = .ok r) (hc : Carries ds.builder i) :
    match r with | none => True | some ds' => Carries ds'.builder i := by
  cases r with
  | none => trivial
  | some ds' =>
    obtain ⟨_, _, b, hb, rfl⟩ := tryAddOp_eq_some.1 h
    exact carries_applyOp hb hc

theorem Admits.carries {C : Compressor} {ds ds' : DeltaSerializer} {ops : List DeltaOp} {i : Id}
    (h : Admits C ds ops ds') (hc : Carries ds.builder i) : Carries ds'.builder i := by
  induction h with
  | nil => exact hc
  | cons hs _ ih => exact ih (carries_tryAddOp hs hc)

/-- Size of the first op after the header of a stale member (9: a `SetMaxVersion` op). -/
def firstItemLen (sn : StaleNode) : Nat :=
  match sn.state.staleKvs sn.fromExcl with
  | p :: _ => opLen (.kv (toKVM p))
  | [] => 9

/-- If the budget admits the header of the first member, without a flush, and one more op, the first
member's node delta carries something. -/
theorem addNodes_first_carries {C : Compressor} {ds ds' : DeltaSerializer} {sn : StaleNode}
    {rest : List StaleNode} (hmax : ds.mtu ≤ 65539) (hnew : sn.id ∉ ds.builder.existing)
    (hwf : WFOp (.node sn.id sn.state.lastGc sn.fromExcl))
    (hblk : ds.writer.block.length + opLen (.node sn.id sn.state.lastGc sn.fromExcl) ≤ ds.writer.threshold)
    (hfit : ds.writer.output.length + ds.writer.block.length +
      opLen (.node sn.id sn.state.lastGc sn.fromExcl) + firstItemLen sn + 7 ≤ ds.mtu)
    (hpos : sn.fromExcl < sn.state.maxVersion)
    (h : addNodes C ds (sn :: rest) = .ok ds') : Carries ds'.builder sn.id := by
  have hlen := encOp_length hwf
  -- the header is admitted and stays in the pending block
  obtain ⟨ds1, h1, hm1, hw1, hcur1⟩ : ∃ ds1,
      ds.tryAddOp C (.node sn.id sn.state.lastGc sn.fromExcl) = .ok (some ds1) ∧ ds1.mtu = ds.mtu ∧
      ds1.writer = { ds.writer with block := ds.writer.block ++ encOp (.node sn.id sn.state.lastGc sn.fromExcl) } ∧
      ds1.builder.current = some (sn.id, ⟨sn.fromExcl, sn.state.lastGc, [], 0⟩) := by
    refine ⟨_, tryAddOp_of_fits hmax ((ds.builder.applyOp_node ..).trans (if_neg hnew))
      (Nat.le_trans (Nat.add_le_add_right (Nat.le_add_right _ _) 7) hfit), rfl, ?_, rfl⟩
    dsimp only -- the projection first, or the unifier unfolds `Writer.append`
    apply append_small
    rw [hlen]
    exact hblk
  -- so the next op, which fits, is admitted if the builder accepts it
  have step : ∀ (op : DeltaOp) (b : DeltaBuilder), opLen op ≤ firstItemLen sn → ds1.builder.applyOp op = some b →
      ∃ ds2, ds1.tryAddOp C op = .ok (some ds2) ∧ ds2.builder = b := fun op b hop hb =>
    ⟨_, tryAddOp_of_fits (hm1 ▸ hmax) hb (by
      simp only [hw1, hm1, List.length_append, hlen, ← Nat.add_assoc]
      exact Nat.le_trans (Nat.add_le_add_right (Nat.add_le_add_left hop _) 7) hfit), rfl⟩
  rw [addNodes, h1] at h
  simp only at h
  cases hst : sn.state.staleKvs sn.fromExcl with
  | nil =>
    obtain ⟨ds3, h3, hb3⟩ := step (.setMax sn.state.maxVersion) _ (by rw [firstItemLen, hst]; exact Nat.le_refl 9)
      ((DeltaBuilder.applyOp_setMax hcur1 _).trans (if_pos (Nat.zero_le _)))
    simp only [hst, addKvs, if_true, h3] at h
    obtain ⟨tr, _, htr⟩ := addNodes_admits h
    exact htr.carries (carries_of_current (by rw [hb3]) (Nat.zero_lt_of_lt hpos))
  | cons p ps =>
    have hpv : 0 < (toKVM p).version :=
      Nat.zero_lt_of_lt (mem_staleKvs.1 (hst ▸ List.mem_cons_self : p ∈ sn.state.staleKvs sn.fromExcl)).2
    obtain ⟨ds2, h2, hb2⟩ := step (.kv (toKVM p)) _ (by rw [firstItemLen, hst]; exact Nat.le_refl _)
      ((DeltaBuilder.applyOp_kv hcur1 _).trans (if_pos hpv))
    have hc2 : Carries ds2.builder sn.id := carries_of_current (by rw [hb2]) hpv
    rw [hst, addKvs, h2] at h
    simp only at h
    split at h
    · cases h
    · rename_i ds4 hk4
      cases h
      obtain ⟨n, hn⟩ := addKvs_admits hk4
      exact hn.carries hc2
    · rename_i ds4 hk4
      obtain ⟨n, hn⟩ := addKvs_admits hk4
      rw [if_neg (List.cons_ne_nil _ _)] at h
      obtain ⟨tr, _, htr⟩ := addNodes_admits h
      exact htr.carries (hn.carries hc2)

theorem computeDelta_first_progress (C : Compressor) (cs : ClusterState) (hcs : WFCluster cs)
    (digest : Digest) (mtu : Nat) (h100 : 100 ≤ mtu) (hmax : mtu ≤ 65539) (sched order : List Id)
    (sn : StaleNode) (rest : List StaleNode)
    (hs : sortStale order (staleNodes cs digest sched) = sn :: rest)
    (hwf : WFOp (.node sn.id sn.state.lastGc sn.fromExcl))
    (hh : opLen (.node sn.id sn.state.lastGc sn.fromExcl) ≤ 16384)
    (hfit : opLen (.node sn.id sn.state.lastGc sn.fromExcl) + firstItemLen sn + 7 ≤ mtu) :
    ∃ delta, computeDelta C cs digest mtu sched order = .ok delta ∧
      ∃ nd, (sn.id, nd) ∈ delta.nodeDeltas ∧ 0 < nd.maxVersion ∧
        ∃ (n : Nat) (b : Bool), nd = senderNodeDelta sn.state sn.fromExcl n b := by
  obtain ⟨delta, hd⟩ := computeDelta_ok C cs hcs digest mtu h100 hmax sched order
  refine ⟨delta, hd, ?_⟩
  have hsn : sn ∈ staleNodes cs digest sched := mem_sortStale.1 (hs ▸ List.mem_cons_self)
  obtain ⟨_, ds', ha, rfl⟩ := computeDelta_eq_ok.1 hd
  rw [hs] at ha
  -- the header is below the threshold `min 16384 mtu`: it is below its own length + … + 7 ≤ mtu
  obtain ⟨nd, hmem, hnd⟩ := addNodes_first_carries (C := C) hmax (List.not_mem_nil (a := sn.id)) hwf
    (by simp only [List.length_nil, Nat.zero_add]
        exact Nat.le_min.2 ⟨hh, Nat.le_trans (Nat.le_trans (Nat.le_add_right _ _) (Nat.le_add_right _ _)) hfit⟩)
    (by simp only [List.length_nil, Nat.zero_add]; exact hfit)
    (mem_staleNodes hsn).2.2.2.2 ha
  have hmem' : (sn.id, nd) ∈ (ds'.finish C).nodeDeltas := by
    rwa [DeltaSerializer.finish, DeltaBuilder.finish_nodeDeltas]
  refine ⟨nd, hmem', hnd, ?_⟩
  obtain ⟨sn', hsn', hid, n, b, hsh⟩ := computeDelta_shape C cs digest mtu sched order _ hd (sn.id, nd) hmem'
  rw [staleNode_eq_of_id hcs hsn' hsn hid] at hsh
  exact ⟨n, b, hsh⟩

end Chitchat
