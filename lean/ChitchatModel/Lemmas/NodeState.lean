/-
Lemmas/NodeState.lean — the predicates on copies and node deltas, and what the per-member operations do:
`setVersionedValue` by one equation, the key-value loop as `storeAll`, `checkDeltaStatus` as a decision
table, `applyDelta` by inversion and by existence, the order on frontiers, `trySetHeartbeat`.

Lemma names for a function `f` into `Except`: `f_ok` says that `f` does not fail (`∃ r, f … = .ok r`),
`f_eq_ok` is the iff `f … = .ok r ↔ …`, `f_spec` says what a successful call did (from `f … = .ok r`).
-/
import ChitchatModel.Model.NodeState
import ChitchatModel.Lemmas.Order
namespace Chitchat

/-! ### predicates on copies and node deltas -/

/-- entry versions are pairwise distinct -/
def DistinctVersions (s : NodeState) : Prop :=
  ∀ p ∈ s.kvs, ∀ q ∈ s.kvs, p.2.version = q.2.version → p = q

/-- What every delta about member X looks like from X's point of view (by C03: no copy, hence no
delta, runs ahead of the owner): its max version and watermark are at most the owner's max version. -/
def NodeDelta.NotAhead (nd : NodeDelta) (owner : NodeState) : Prop :=
  nd.maxVersion ≤ owner.maxVersion ∧ nd.lastGc ≤ owner.maxVersion

/-- The only well-formedness a delta needs for `apply_delta` not to abort: no key-value above the
announced max version. (It is `NodeDelta.WF.leMax`, which holds of every decoded delta,
`C09_decoded_delta_wf`, and of every delta `computeDelta` builds, `computeDelta_wf`.) -/
def NodeDelta.KvsLeMax (nd : NodeDelta) : Prop := ∀ kv ∈ nd.kvs, kv.version ≤ nd.maxVersion

instance (nd : NodeDelta) : Decidable nd.KvsLeMax := by unfold NodeDelta.KvsLeMax; infer_instance

/-- Well-formedness of a node delta as guaranteed by `DeltaBuilder`. -/
structure NodeDelta.WF (nd : NodeDelta) : Prop where
  increasing : nd.kvs.Pairwise (fun a b => a.version < b.version)
  leMax : ∀ kv ∈ nd.kvs, kv.version ≤ nd.maxVersion

namespace NodeState

/-! ### `setVersionedValue` (`svv` in lemma names) -/

def newer (s : NodeState) (key : Bytes) (u : VV) : Bool :=
  match AL.lookup key s.kvs with
  | some old => decide (old.version < u.version)
  | none => true

theorem svv_eq (s : NodeState) (key : Bytes) (u : VV) :
    s.setVersionedValue key u =
      ({ s with maxVersion := max u.version s.maxVersion,
                kvs := if newer s key u then AL.insert bytesLt key u s.kvs else s.kvs },
       if newer s key u = true ∧ u.isDeleted = false then [⟨key, u.value⟩] else []) := by
  unfold setVersionedValue newer
  cases AL.lookup key s.kvs with
  | none => cases u.isDeleted <;> rfl
  | some old =>
    by_cases hv : old.version ≥ u.version
    · simp [hv, Nat.not_lt.2 hv]
    · cases u.isDeleted <;> simp [hv, Nat.lt_of_not_ge hv]

@[simp] theorem svv_max (s : NodeState) (key : Bytes) (u : VV) :
    (s.setVersionedValue key u).1.maxVersion = max u.version s.maxVersion := by rw [svv_eq]

@[simp] theorem svv_gc (s : NodeState) (key : Bytes) (u : VV) :
    (s.setVersionedValue key u).1.lastGc = s.lastGc := by rw [svv_eq]

@[simp] theorem svv_hb (s : NodeState) (key : Bytes) (u : VV) :
    (s.setVersionedValue key u).1.heartbeat = s.heartbeat := by rw [svv_eq]

theorem svv_kvs (s : NodeState) (key : Bytes) (u : VV) :
    (s.setVersionedValue key u).1.kvs = if newer s key u then AL.insert bytesLt key u s.kvs else s.kvs := by
  rw [svv_eq]

theorem svv_sorted (s : NodeState) (key : Bytes) (u : VV) (h : SortedKeys s.kvs) :
    SortedKeys (s.setVersionedValue key u).1.kvs := by
  rw [svv_kvs]
  split
  · exact sortedKeys_insert _ _ h
  · exact h

theorem newer_eq_true_iff {s : NodeState} {key : Bytes} {u : VV} :
    newer s key u = true ↔ ∀ old, AL.lookup key s.kvs = some old → old.version < u.version := by
  unfold newer
  cases AL.lookup key s.kvs <;> simp

theorem svv_lookup (s : NodeState) (key : Bytes) (u : VV) (k : Bytes) :
    AL.lookup k (s.setVersionedValue key u).1.kvs =
      if k = key ∧ newer s key u = true then some u else AL.lookup k s.kvs := by
  rw [svv_kvs]
  cases newer s key u
  · simp
  · simp [AL.lookup_insert]

theorem svv_version_mono (s : NodeState) (key : Bytes) (u : VV) (k : Bytes) (v : VV)
    (h : AL.lookup k s.kvs = some v) :
    ∃ v', AL.lookup k (s.setVersionedValue key u).1.kvs = some v' ∧ v.version ≤ v'.version := by
  rw [svv_lookup]
  split
  · rename_i hk
    exact ⟨u, rfl, Nat.le_of_lt (newer_eq_true_iff.1 hk.2 v (hk.1 ▸ h))⟩
  · exact ⟨v, h, Nat.le_refl _⟩

theorem svv_holds (s : NodeState) (key : Bytes) (u : VV) :
    ∃ v', AL.lookup key (s.setVersionedValue key u).1.kvs = some v' ∧ u.version ≤ v'.version := by
  rw [svv_lookup]
  grind [newer]

/-- Every stored version is at most the max version. -/
def EntriesLeMax (s : NodeState) : Prop :=
  ∀ k v, AL.lookup k s.kvs = some v → v.version ≤ s.maxVersion

theorem svv_entriesLeMax (s : NodeState) (key : Bytes) (u : VV) (h : EntriesLeMax s) :
    EntriesLeMax (s.setVersionedValue key u).1 := by
  intro k v hv
  rw [svv_max]
  rw [svv_lookup] at hv
  split at hv
  · cases hv; exact Nat.le_max_left _ _
  · exact Nat.le_trans (h k v hv) (Nat.le_max_right _ _)

/-! ### `storeAll`: the key-value loops

Both key-value loops of the model — `applyKvs` (of `apply_delta`) and `Node.catchupFold` (of the external
catch-up) — store a list of entries one after the other with `setVersionedValue`. -/

def storeAll (s : NodeState) (l : List (Bytes × VV)) : NodeState :=
  l.foldl (fun s p => (s.setVersionedValue p.1 p.2).1) s

@[simp] theorem storeAll_cons (s : NodeState) (p : Bytes × VV) (l : List (Bytes × VV)) :
    s.storeAll (p :: l) = (s.setVersionedValue p.1 p.2).1.storeAll l := rfl

theorem storeAll_induct {P : NodeState → Prop} {l : List (Bytes × VV)}
    (step : ∀ s, ∀ p ∈ l, P s → P (s.setVersionedValue p.1 p.2).1) {s : NodeState} (h : P s) :
    P (s.storeAll l) := by
  induction l generalizing s with
  | nil => exact h
  | cons p t ih =>
    exact ih (fun s q hq => step s q (List.mem_cons_of_mem _ hq)) (step s p List.mem_cons_self h)

@[simp] theorem storeAll_gc (s : NodeState) (l : List (Bytes × VV)) : (s.storeAll l).lastGc = s.lastGc :=
  storeAll_induct (P := (·.lastGc = s.lastGc)) (fun t p _ h => by rw [svv_gc, h]) rfl

@[simp] theorem storeAll_hb (s : NodeState) (l : List (Bytes × VV)) :
    (s.storeAll l).heartbeat = s.heartbeat :=
  storeAll_induct (P := (·.heartbeat = s.heartbeat)) (fun t p _ h => by rw [svv_hb, h]) rfl

theorem storeAll_max_ge (s : NodeState) (l : List (Bytes × VV)) : s.maxVersion ≤ (s.storeAll l).maxVersion :=
  storeAll_induct (P := (s.maxVersion ≤ ·.maxVersion))
    (fun t p _ h => by rw [svv_max]; exact Nat.le_trans h (Nat.le_max_right _ _)) (Nat.le_refl _)

theorem storeAll_max_le {s : NodeState} {l : List (Bytes × VV)} {B : Nat} (hs : s.maxVersion ≤ B)
    (hl : ∀ p ∈ l, p.2.version ≤ B) : (s.storeAll l).maxVersion ≤ B :=
  storeAll_induct (P := (·.maxVersion ≤ B))
    (fun t p hp h => by rw [svv_max]; exact Nat.max_le.2 ⟨hl p hp, h⟩) hs

theorem storeAll_sorted {s : NodeState} (l : List (Bytes × VV)) (h : SortedKeys s.kvs) :
    SortedKeys (s.storeAll l).kvs :=
  storeAll_induct (P := fun t => SortedKeys t.kvs) (fun t p _ h => svv_sorted t p.1 p.2 h) h

theorem storeAll_entriesLeMax {s : NodeState} (l : List (Bytes × VV)) (h : EntriesLeMax s) :
    EntriesLeMax (s.storeAll l) :=
  storeAll_induct (fun t p _ h => svv_entriesLeMax t p.1 p.2 h) h

theorem storeAll_version_mono {s : NodeState} (l : List (Bytes × VV)) {k : Bytes} {v : VV}
    (h : AL.lookup k s.kvs = some v) :
    ∃ v', AL.lookup k (s.storeAll l).kvs = some v' ∧ v.version ≤ v'.version := by
  refine storeAll_induct (P := fun t => ∃ v', AL.lookup k t.kvs = some v' ∧ v.version ≤ v'.version)
    ?_ ⟨v, h, Nat.le_refl _⟩
  rintro t p - ⟨v1, h1, hle1⟩
  obtain ⟨v2, h2, hle2⟩ := svv_version_mono t p.1 p.2 k v1 h1
  exact ⟨v2, h2, Nat.le_trans hle1 hle2⟩

theorem storeAll_kept (s : NodeState) {l : List (Bytes × VV)} {p : Bytes × VV} (hp : p ∈ l) :
    ∃ v', AL.lookup p.1 (s.storeAll l).kvs = some v' ∧ p.2.version ≤ v'.version := by
  induction l generalizing s with
  | nil => cases hp
  | cons a t ih =>
    rcases List.mem_cons.1 hp with rfl | hp
    · obtain ⟨v1, h1, hle1⟩ := svv_holds s p.1 p.2
      obtain ⟨v2, h2, hle2⟩ := storeAll_version_mono t h1
      exact ⟨v2, h2, Nat.le_trans hle1 hle2⟩
    · exact ih _ hp

theorem storeAll_origin {s : NodeState} {l : List (Bytes × VV)} {k : Bytes} {v : VV}
    (h : AL.lookup k (s.storeAll l).kvs = some v) : AL.lookup k s.kvs = some v ∨ (k, v) ∈ l := by
  induction l generalizing s with
  | nil => exact Or.inl h
  | cons a t ih =>
    rcases ih h with h1 | h1
    · rw [svv_lookup] at h1
      split at h1
      · rename_i hk
        cases h1
        exact Or.inr (hk.1 ▸ List.mem_cons_self)
      · exact Or.inl h1
    · exact Or.inr (List.mem_cons_of_mem _ h1)

theorem storeAll_lookup {l : List (Bytes × VV)} (hnd : (l.map (·.1)).Nodup) (s : NodeState) (k : Bytes) :
    AL.lookup k (s.storeAll l).kvs =
      match AL.lookup k l with
      | none => AL.lookup k s.kvs
      | some u =>
        match AL.lookup k s.kvs with
        | some old => if old.version ≥ u.version then some old else some u
        | none => some u := by
  induction l generalizing s with
  | nil => rfl
  | cons a t ih =>
    obtain ⟨ak, au⟩ := a
    simp only [List.map_cons, List.nodup_cons] at hnd
    rw [storeAll_cons, ih hnd.2, svv_lookup, AL.lookup_cons]
    dsimp only
    by_cases hk : k = ak
    · subst hk
      rw [AL.lookup_eq_none hnd.1]
      grind [newer]
    · simp only [hk, false_and, if_false]

/-! ### `applyKvs` -/

/-- The entries that the key-value loop of `apply_delta` stores: those above the copy's max version
before the loop (`cm`) that are not tombstones at or below its watermark (`gc`). -/
def accepted (cm gc now : Nat) (kvs : List KVM) : List (Bytes × VV) :=
  (kvs.filter (fun kv => decide (¬ kv.version ≤ cm ∧ ¬ (kv.status.scheduledForDeletion ∧ kv.version ≤ gc)))).map
    (fun kv => (kv.key, ⟨kv.value, kv.version, kv.status.intoStatus now⟩))

theorem mem_accepted {cm gc now : Nat} {kvs : List KVM} {p : Bytes × VV} :
    p ∈ accepted cm gc now kvs ↔ ∃ kv ∈ kvs, ¬ kv.version ≤ cm ∧
      ¬ (kv.status.scheduledForDeletion ∧ kv.version ≤ gc) ∧
      p = (kv.key, ⟨kv.value, kv.version, kv.status.intoStatus now⟩) := by
  simp only [accepted, List.mem_map, List.mem_filter, decide_eq_true_eq, and_assoc, @eq_comm _ p]

theorem accepted_keys_nodup {cm gc now : Nat} {kvs : List KVM} (hnd : (kvs.map (·.key)).Nodup) :
    ((accepted cm gc now kvs).map (·.1)).Nodup := by
  unfold accepted
  rw [List.map_map]
  exact hnd.sublist (List.filter_sublist.map _)

/-- The watermark the loop compares with never moves (`svv_gc`), so what is accepted can be read off
the copy the loop starts from. -/
theorem applyKvs_fst (cm now : Nat) (s : NodeState) (kvs : List KVM) :
    (applyKvs cm now s kvs).1 = s.storeAll (accepted cm s.lastGc now kvs) := by
  induction kvs generalizing s with
  | nil => rfl
  | cons kv rest ih => grind [applyKvs, accepted, storeAll_cons, svv_gc]

theorem applyKvs_max_ge (cm now : Nat) (s : NodeState) (kvs : List KVM) :
    s.maxVersion ≤ (applyKvs cm now s kvs).1.maxVersion := by
  rw [applyKvs_fst]; exact storeAll_max_ge _ _

/-! ### `checkDeltaStatus` -/

theorem checkDeltaStatus_apply_iff (s : NodeState) (nd : NodeDelta) :
    s.checkDeltaStatus nd = .apply ↔
      nd.fromExcl ≤ s.maxVersion ∧ (nd.lastGc ≤ s.lastGc ∨ nd.lastGc ≤ s.maxVersion) ∧
        s.maxVersion < nd.maxVersion := by
  unfold checkDeltaStatus; grind

theorem checkDeltaStatus_reset_iff (s : NodeState) (nd : NodeDelta) :
    s.checkDeltaStatus nd = .applyAfterReset ↔
      nd.fromExcl = 0 ∧ s.lastGc < nd.lastGc ∧ s.maxVersion < nd.lastGc := by
  unfold checkDeltaStatus; grind

/-- the three refusals: from the future, a reset that does not start from 0, nothing new -/
theorem checkDeltaStatus_reject_iff (s : NodeState) (nd : NodeDelta) :
    s.checkDeltaStatus nd = .reject ↔
      s.maxVersion < nd.fromExcl ∨
      (s.lastGc < nd.lastGc ∧ s.maxVersion < nd.lastGc ∧ nd.fromExcl ≠ 0) ∨
      ((nd.lastGc ≤ s.lastGc ∨ nd.lastGc ≤ s.maxVersion) ∧ nd.maxVersion ≤ s.maxVersion) := by
  unfold checkDeltaStatus; grind

theorem checkDeltaStatus_eq_reject_of_notAhead {o : NodeState} {nd : NodeDelta} (h : nd.NotAhead o) :
    o.checkDeltaStatus nd = .reject :=
  (checkDeltaStatus_reject_iff o nd).2 (.inr (.inr ⟨.inr h.2, h.1⟩))

/-! ### `applyDelta` -/

theorem applyBase_of_reset {s : NodeState} {nd : NodeDelta} (h : s.checkDeltaStatus nd = .applyAfterReset) :
    s.applyBase nd = s.resetNode nd.lastGc := if_pos h

theorem applyBase_of_not_reset {s : NodeState} {nd : NodeDelta}
    (h : s.checkDeltaStatus nd ≠ .applyAfterReset) : s.applyBase nd = s := if_neg h

theorem applyDelta_reject {s : NodeState} {nd : NodeDelta} {now : Nat}
    (hr : s.checkDeltaStatus nd = .reject) : s.applyDelta nd now = .ok (s, .reject, []) := by
  unfold applyDelta; rw [if_pos hr]

/-- The entries of a node delta that a copy stores (the copy is wiped first if the delta resets it). -/
def stored (s : NodeState) (nd : NodeDelta) (now : Nat) : List (Bytes × VV) :=
  accepted (s.applyBase nd).maxVersion (s.applyBase nd).lastGc now nd.kvs

theorem mem_stored {s : NodeState} {nd : NodeDelta} {now : Nat} {p : Bytes × VV} :
    p ∈ stored s nd now ↔ ∃ kv ∈ nd.kvs, ¬ kv.version ≤ (s.applyBase nd).maxVersion ∧
      ¬ (kv.status.scheduledForDeletion ∧ kv.version ≤ (s.applyBase nd).lastGc) ∧
      p = (kv.key, ⟨kv.value, kv.version, kv.status.intoStatus now⟩) :=
  mem_accepted

theorem applyDelta_spec {s : NodeState} {nd : NodeDelta} {now : Nat} {s' : NodeState}
    {st : DeltaStatus} {evs : List Event} (h : s.applyDelta nd now = .ok (s', st, evs)) :
    st = s.checkDeltaStatus nd ∧
    (st = .reject → s' = s) ∧
    (st ≠ .reject → ((s.applyBase nd).storeAll (stored s nd now)).maxVersion ≤ nd.maxVersion ∧
      s' = { (s.applyBase nd).storeAll (stored s nd now) with maxVersion := nd.maxVersion }) := by
  unfold applyDelta at h
  simp only [applyKvs_fst] at h
  by_cases hr : s.checkDeltaStatus nd = .reject
  · rw [if_pos hr] at h
    cases h
    exact ⟨hr.symm, fun _ => rfl, fun h => absurd rfl h⟩
  · rw [if_neg hr] at h
    split at h
    · cases h; exact ⟨rfl, fun h => absurd h hr, fun _ => ⟨‹_›, rfl⟩⟩
    · cases h

/-- A delta with `KvsLeMax` that is not rejected is applied: the `max_version` assertion cannot fire. -/
theorem applyDelta_ok (s : NodeState) (nd : NodeDelta) (now : Nat) (hwf : nd.KvsLeMax)
    (hr : s.checkDeltaStatus nd ≠ .reject) :
    ∃ evs, s.applyDelta nd now =
      .ok ({ (s.applyBase nd).storeAll (stored s nd now) with maxVersion := nd.maxVersion },
           s.checkDeltaStatus nd, evs) := by
  have hbase : (s.applyBase nd).maxVersion ≤ nd.maxVersion := by
    cases hst : s.checkDeltaStatus nd with
    | reject => exact absurd hst hr
    | apply =>
      rw [applyBase_of_not_reset (by simp [hst])]
      exact Nat.le_of_lt ((checkDeltaStatus_apply_iff s nd).1 hst).2.2
    | applyAfterReset => rw [applyBase_of_reset hst]; exact Nat.zero_le _
  have hle : ((s.applyBase nd).storeAll (stored s nd now)).maxVersion ≤ nd.maxVersion :=
    storeAll_max_le hbase (fun p hp => by
      obtain ⟨kv, hkv, _, _, rfl⟩ := mem_stored.1 hp
      exact hwf kv hkv)
  unfold applyDelta
  rw [applyKvs_fst, if_neg hr]
  exact ⟨_, if_pos hle⟩

/-! ### the lexicographic order on frontiers -/

theorem frontierLe_refl (a : Nat × Nat) : frontierLe a a := Or.inr ⟨rfl, Nat.le_refl _⟩

theorem frontierLe_of_le_le {a b : Nat × Nat} (h1 : a.1 ≤ b.1) (h2 : a.2 ≤ b.2) : frontierLe a b :=
  (Nat.lt_or_eq_of_le h1).imp id fun h => ⟨h, h2⟩

/-- Both orders compare the first components strictly and, where these agree, the second ones by `≤`
resp. `<`; two such steps compose whenever the relations on the second components do. -/
theorem lex_trans {R S T : Nat → Nat → Prop} (hRS : ∀ {x y z}, R x y → S y z → T x z) {a b c : Nat × Nat}
    (h1 : a.1 < b.1 ∨ (a.1 = b.1 ∧ R a.2 b.2)) (h2 : b.1 < c.1 ∨ (b.1 = c.1 ∧ S b.2 c.2)) :
    a.1 < c.1 ∨ (a.1 = c.1 ∧ T a.2 c.2) := by
  rcases h1 with h1 | ⟨e1, r⟩
  · rcases h2 with h2 | ⟨e2, _⟩
    · exact Or.inl (Nat.lt_trans h1 h2)
    · exact Or.inl (e2 ▸ h1)
  · rcases h2 with h2 | ⟨e2, s⟩
    · exact Or.inl (e1 ▸ h2)
    · exact Or.inr ⟨e1.trans e2, hRS r s⟩

theorem frontierLe_trans {a b c : Nat × Nat} (h1 : frontierLe a b) (h2 : frontierLe b c) : frontierLe a c :=
  lex_trans Nat.le_trans h1 h2

theorem frontierLt_of_lt_le {a b c : Nat × Nat} (h1 : frontierLt a b) (h2 : frontierLe b c) : frontierLt a c :=
  lex_trans Nat.lt_of_lt_of_le h1 h2

theorem frontierLt_of_le_lt {a b c : Nat × Nat} (h1 : frontierLe a b) (h2 : frontierLt b c) : frontierLt a c :=
  lex_trans Nat.lt_of_le_of_lt h1 h2

theorem frontierLt_of_le_of_snd_lt {a b : Nat × Nat} (h1 : frontierLe a b) (h2 : a.2 < b.2) :
    frontierLt a b :=
  h1.imp_right fun ⟨e, _⟩ => ⟨e, h2⟩

theorem frontierLt.le {a b : Nat × Nat} (h : frontierLt a b) : frontierLe a b :=
  h.imp_right fun ⟨e, l⟩ => ⟨e, Nat.le_of_lt l⟩


/-! ### `trySetHeartbeat` -/

theorem trySetHeartbeat_fst (s : NodeState) (hb : Nat) :
    (s.trySetHeartbeat hb).1 = { s with heartbeat := max s.heartbeat hb } := by
  unfold trySetHeartbeat
  by_cases h0 : s.heartbeat = 0
  · rw [if_pos h0, h0, Nat.zero_max]
  · rw [if_neg h0]
    by_cases h : hb > s.heartbeat
    · rw [if_pos h, Nat.max_eq_right (Nat.le_of_lt h)]
    · rw [if_neg h, Nat.max_eq_left (Nat.le_of_not_lt h)]

theorem trySetHeartbeat_snd (s : NodeState) (hb : Nat) :
    (s.trySetHeartbeat hb).2 = true ↔ s.heartbeat ≠ 0 ∧ s.heartbeat < hb := by
  unfold trySetHeartbeat
  grind

end NodeState

theorem trySetHeartbeat_ge (s : NodeState) (hb : Nat) : hb ≤ (s.trySetHeartbeat hb).1.heartbeat ∨ hb ≤ s.heartbeat :=
  Or.inl (by rw [NodeState.trySetHeartbeat_fst]; exact Nat.le_max_right _ _)

end Chitchat
