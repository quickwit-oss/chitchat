/-
Lemmas/SystemInv.lean — the system invariant `XInv` is inductive (`xinv_step`, `xinv_reach`). It is
first restated copy by copy and delta by delta (`CopyOK`, `DeltaGood`, `xinv_iff`); every kind of step
then keeps one copy or one delta good.
-/
import ChitchatModel.Lemmas.System
namespace Chitchat
open NodeState Ledger ClusterState

/-- no delta about a member is ahead of the member's own copy (`owner_rejects`, on the executable side) -/
theorem notAhead_of_deltaOKW {H : List Write} {o : NodeState} {d : NodeDelta × Nat}
    (hd : DeltaOKW H (absDelta d.1 d.2)) (ho : o.maxVersion = H.length) : d.1.NotAhead o :=
  have := owner_rejects H (absCopy o) _ hd ho
  ⟨Nat.le_of_not_lt this.1, this.2⟩

/-! ### the invariant, copy by copy and delta by delta -/

/-- what `XInv` says of one copy -/
structure CopyOK (full : Bool) (H : List Write) (r : NodeState) : Prop where
  wf : WFCopy r
  invW : InvW H (absCopy r)
  inv : full = true → Inv H (absCopy r)

/-- what `XInv` says of one delta -/
structure DeltaGood (full : Bool) (H : List Write) (d : NodeDelta × Nat) : Prop where
  wf : d.1.WF ∧ (d.1.kvs.map (·.key)).Nodup ∧ (∀ kv ∈ d.1.kvs, 1 ≤ kv.version)
  okW : DeltaOKW H (absDelta d.1 d.2)
  ok : full = true → DeltaOK H (absDelta d.1 d.2)

theorem xinv_iff {full : Bool} {σ : XSys} :
    XInv full σ ↔ σ.owner.maxVersion = σ.H.length ∧ CopyOK true σ.H σ.owner ∧
      (∀ r ∈ σ.replicas, CopyOK full σ.H r) ∧ ∀ d ∈ σ.deltas, DeltaGood full σ.H d :=
  ⟨fun h => ⟨h.ownerFull, ⟨h.ownerWF, h.ownerInv.toInvW, fun _ => h.ownerInv⟩,
      fun r hr => ⟨h.repWF r hr, h.repInvW r hr, fun hf => h.repInv hf r hr⟩,
      fun d hd => ⟨h.deltaWF d hd, h.deltaOKW d hd, fun hf => h.deltaOK hf d hd⟩⟩,
   fun ⟨h, ho, hr, hd⟩ => ⟨h, ho.wf, ho.inv rfl, fun r h => (hr r h).wf, fun r h => (hr r h).invW,
      fun hf r h => (hr r h).inv hf, fun d h => (hd d h).wf, fun d h => (hd d h).okW,
      fun hf d h => (hd d h).ok hf⟩⟩

section
variable {full : Bool} {H : List Write}

theorem CopyOK.of_abs {r : NodeState} {c : Copy} (hwf : WFCopy r) (e : absCopy r = c) (hW : InvW H c)
    (hI : full = true → Inv H c) : CopyOK full H r :=
  ⟨hwf, e ▸ hW, fun hf => e ▸ hI hf⟩

theorem CopyOK.mono {r : NodeState} (h : CopyOK true H r) : CopyOK full H r :=
  ⟨h.wf, h.invW, fun _ => h.inv rfl⟩

theorem CopyOK.append {r : NodeState} (h : CopyOK full H r) (w : Write) : CopyOK full (H ++ [w]) r :=
  ⟨h.wf, invW_append _ w _ h.invW, fun hf => inv_append _ w _ (h.inv hf)⟩

theorem DeltaGood.append {d : NodeDelta × Nat} (h : DeltaGood full H d) (w : Write) :
    DeltaGood full (H ++ [w]) d :=
  ⟨h.wf, deltaOKW_append _ w _ h.okW, fun hf => deltaOK_append _ w _ (h.ok hf)⟩

theorem CopyOK.empty (full : Bool) (H : List Write) (hb : Nat) : CopyOK full H ⟨hb, [], 0, 0⟩ :=
  ⟨wfCopy_empty hb 0, (emptyCopy_inv H).toInvW, fun _ => emptyCopy_inv H⟩

theorem CopyOK.gcKeys {s : NodeState} (h : CopyOK full H s) (now grace : Nat) :
    CopyOK full H (s.gcKeys now grace) := by
  obtain ⟨h1, h2, _⟩ := gcKeys_watermark s now grace
  have hle := gcKeys_lastGc_le h.wf.wfLocal now grace
  refine .of_abs (wfCopy_gcKeys h.wf now grace) (absCopy_gcKeys s now grace h.wf.sorted)
    (gcCopy_invW H _ _ _ h.invW hle) fun hf => gcCopy_inv H _ _ _ (h.inv hf) h1 hle fun k hk => ?_
  split at hk
  · rename_i v hl
    exact ⟨entOfVV v, absCopy_kvs hl, tomb_of_expired hk, h2 (k, v) (AL.mem_of_lookup hl) hk⟩
  · cases hk

theorem CopyOK.ownerWrite {o : NodeState} (h : CopyOK true H o) (hfull : o.maxVersion = H.length)
    (w : Write) (now : Nat) : CopyOK true (H ++ [w]) (ownerWriteExec o w now) :=
  have := ownerWrite_inv H _ w (h.inv rfl) hfull
  .of_abs (ownerWriteExec_eq_bump o w now ▸ wfCopy_bump h.wf ..) (absCopy_ownerWriteExec o w now) this.toInvW fun _ => this

/-- One delivery keeps a copy good: always for the integrity part, and for the full invariant unless
the delivery matches the KF-1 pattern. -/
theorem CopyOK.deliver {r r' : NodeState} {d : NodeDelta × Nat} {now : Nat} {st : DeltaStatus}
    {evs : List Event} (hr : CopyOK full H r) (hd : DeltaGood full H d)
    (h : r.applyDelta d.1 now = .ok (r', st, evs)) (hguard : full = true → ¬ kf1Pattern r d) :
    CopyOK full H r' := by
  obtain ⟨dwf, dnd, dpos⟩ := hd.wf
  have hs := (applyDelta_spec h).1.symm
  have hwf := wfCopy_applyDelta hr.wf dwf.increasing h
  cases st with
  | reject =>
    rw [absCopy_reject r d.1 now r' evs h]
    exact hr
  | apply =>
    obtain ⟨f1, f2, f3⟩ := (checkDeltaStatus_apply_iff r d.1).1 hs
    refine .of_abs hwf (absCopy_applyInc r d.1 now d.2 r' evs dnd h) (applyInc_invW H _ _ hr.invW hd.okW f3)
      fun hf => applyInc_inv H _ _ (hr.inv hf) (hd.ok hf) f1 f2 f3 ?_
    -- what `applyInc_inv` asks of the watermark is the negation of the KF-1 pattern
    show r.lastGc ≤ d.1.maxVersion ∨ r.lastGc ≤ d.2
    refine Decidable.byContradiction fun ne => hguard hf ⟨hs, ?_, ?_⟩ <;> omega
  | applyAfterReset =>
    exact .of_abs hwf (absCopy_applyReset r d.1 now d.2 r' evs dnd dpos h) (applyReset_invW H _ hd.okW)
      fun hf => applyReset_inv H _ (hd.ok hf) ((checkDeltaStatus_reset_iff r d.1).1 hs).1

theorem CopyOK.catchup {d s : NodeState} (hd : CopyOK full H d) (hs : CopyOK full H s) :
    CopyOK full H (d.catchupCopy s.kvs s.maxVersion s.lastGc) :=
  .of_abs (wfCopy_catchupCopy H d s hs.wf hd.wf hs.invW hd.invW) (absCopy_catchupCopy d s hs.wf hd.wf)
    (catchupAbs_invW H _ _ hd.invW hs.invW) fun hf => catchupAbs_inv H _ _ (hd.inv hf) (hs.inv hf)

theorem DeltaGood.sender {s : NodeState} (hs : CopyOK full H s) (f n : Nat) (b : Bool) :
    DeltaGood full H (senderNodeDelta s f n b, max s.lastGc s.maxVersion) :=
  have hle := senderNodeDelta_max_le s f n b hs.wf.wfLocal
  have e := absDelta_senderNodeDelta s f n b hs.wf.sorted hs.wf.distinct
  ⟨senderNodeDelta_wf s f n b hs.wf, e ▸ mkDelta_okW H _ _ _ hs.invW hle,
    fun hf => e ▸ mkDelta_ok H _ _ _ (hs.inv hf) hle⟩

end

/-- **The invariant is inductive.** `hfg`: the full invariant (C02) needs the guarded step relation,
in which no delivery matches the KF-1 pattern. -/
theorem xinv_step (full guarded : Bool) (hfg : full = true → guarded = true) (σ σ' : XSys)
    (hinv : XInv full σ) (hstep : XStep guarded σ σ') : XInv full σ' := by
  obtain ⟨hfull, ho, hr, hd⟩ := xinv_iff.1 hinv
  have hrep : ∀ {i : Nat} {r : NodeState}, σ.replicas[i]? = some r → CopyOK full σ.H r :=
    fun h => hr _ (List.mem_of_getElem? h)
  apply xinv_iff.2
  cases hstep with
  | write w now =>
    exact ⟨by simp only [ownerWriteExec, List.length_append, List.length_singleton, hfull],
      ho.ownerWrite hfull w now, fun r h => (hr r h).append w, fun d h => (hd d h).append w⟩
  | gcOwner now grace => exact ⟨hfull, ho.gcKeys now grace, hr, hd⟩
  | gcReplica i now grace r hi => exact ⟨hfull, ho, forall_mem_set hr ((hrep hi).gcKeys now grace) i, hd⟩
  | join hb => exact ⟨hfull, ho, forall_mem_concat hr (.empty full σ.H hb), hd⟩
  | remove i => exact ⟨hfull, ho, fun x hx => hr x (List.mem_of_mem_eraseIdx hx), hd⟩
  | offerOwner f n b => exact ⟨hfull, ho, hr, forall_mem_concat hd (.sender ho.mono f n b)⟩
  | offerReplica i s hi f n b => exact ⟨hfull, ho, hr, forall_mem_concat hd (.sender (hrep hi) f n b)⟩
  | deliver i r hi d hdm now r' st evs happ hguard =>
    exact ⟨hfull, ho, forall_mem_set hr ((hrep hi).deliver (hd d hdm) happ fun hf => hguard (hfg hf)) i, hd⟩
  | catchup i j s d hi hj => exact ⟨hfull, ho, forall_mem_set hr ((hrep hj).catchup (hrep hi)) j, hd⟩
  | catchupFromOwner j d hj => exact ⟨hfull, ho, forall_mem_set hr ((hrep hj).catchup ho.mono) j, hd⟩
  | deliverToOwner d hdm now o' st evs happ =>
    -- the owner refuses every delta about itself: nothing is ahead of it
    rw [applyDelta_reject (checkDeltaStatus_eq_reject_of_notAhead (notAhead_of_deltaOKW (hd d hdm).okW hfull))] at happ
    cases happ
    exact ⟨hfull, ho, hr, hd⟩

theorem xinv_init (full : Bool) : XInv full XSys.init :=
  xinv_iff.2 ⟨rfl, .empty true [] 1, fun _ h => (nomatch h), fun _ h => (nomatch h)⟩

theorem xinv_reach (full guarded : Bool) (hfg : full = true → guarded = true) (σ : XSys)
    (h : XReach guarded σ) : XInv full σ := by
  induction h with
  | init => exact xinv_init full
  | step σ σ' _ hstep ih => exact xinv_step full guarded hfg σ σ' ih hstep

end Chitchat
