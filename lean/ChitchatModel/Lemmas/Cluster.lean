/-
Lemmas/Cluster.lean — the member map of `ClusterState` (`setNode`, `initIfAbsent`, `removeNode` touch
one member), and `ClusterState::apply_delta` by two equations, an inversion and an invariant rule.
-/
import ChitchatModel.Lemmas.NodeState
import ChitchatModel.Model.Cluster
namespace Chitchat.ClusterState
open NodeState

/-! ### the member map -/

@[simp] theorem nodeState_setNode (cs : ClusterState) (i j : Id) (s : NodeState) :
    (cs.setNode i s).nodeState j = if j = i then some s else cs.nodeState j :=
  AL.lookup_insert Id.lt i j s cs.nodes

theorem initIfAbsent_of_some {cs : ClusterState} {i : Id} {s : NodeState} (h : cs.nodeState i = some s) :
    cs.initIfAbsent i = cs := by
  unfold initIfAbsent; rw [h]

theorem nodeState_initIfAbsent (cs : ClusterState) (i j : Id) :
    (cs.initIfAbsent i).nodeState j =
      if j = i then some ((cs.nodeState i).getD NodeState.empty) else cs.nodeState j := by
  unfold initIfAbsent
  cases h : cs.nodeState i with
  | some t => grind
  | none => exact AL.lookup_insert _ _ _ _ _

theorem lastHeartbeatIfDeleted_initIfAbsent_ne (cs : ClusterState) {i j : Id} (h : j ≠ i) :
    (cs.initIfAbsent i).lastHeartbeatIfDeleted j = cs.lastHeartbeatIfDeleted j := by
  unfold initIfAbsent
  cases cs.nodeState i with
  | some t => rfl
  | none => simp only [lastHeartbeatIfDeleted]; rw [AL.lookup_erase, if_neg h]

theorem nodeState_removeNode (cs : ClusterState) (i j : Id) :
    (cs.removeNode i).nodeState j = if j = i then none else cs.nodeState j := by
  unfold removeNode
  cases h : cs.nodeState i with
  | none => grind
  | some s => exact AL.lookup_erase _ _ _

/-! ### `ClusterState::apply_delta` -/

/-- what one node delta contributes to the result of the rest of the loop -/
def consResult (i : Id) (st : DeltaStatus) (ev : List Event) (r : ClusterState × Bool × List (Id × Event)) :
    ClusterState × Bool × List (Id × Event) :=
  (r.1, r.2.1 || (st == .applyAfterReset), ev.map (fun e => (i, e)) ++ r.2.2)

theorem applyDelta_cons_none {now : Nat} {cs : ClusterState} {i : Id} (nd : NodeDelta)
    (rest : List (Id × NodeDelta)) (hn : cs.nodeState i = none) :
    applyDelta now cs ((i, nd) :: rest) = applyDelta now cs rest := by
  simp only [applyDelta, hn]

theorem applyDelta_cons_some {now : Nat} {cs : ClusterState} {i : Id} {nd : NodeDelta} {s s' : NodeState}
    {st : DeltaStatus} {ev : List Event} (rest : List (Id × NodeDelta)) (hn : cs.nodeState i = some s)
    (ha : s.applyDelta nd now = .ok (s', st, ev)) (hle : frontierLe s.frontier s'.frontier) :
    applyDelta now cs ((i, nd) :: rest) = (applyDelta now (cs.setNode i s') rest).map (consResult i st ev) := by
  simp only [applyDelta, hn, ha, hle, if_true]
  cases applyDelta now (cs.setNode i s') rest <;> rfl

theorem applyDelta_cons_spec {now : Nat} {cs : ClusterState} {i : Id} {nd : NodeDelta}
    {rest : List (Id × NodeDelta)} {r : ClusterState × Bool × List (Id × Event)}
    (h : applyDelta now cs ((i, nd) :: rest) = .ok r) :
    (cs.nodeState i = none ∧ applyDelta now cs rest = .ok r) ∨
    ∃ s s' st ev r', cs.nodeState i = some s ∧ s.applyDelta nd now = .ok (s', st, ev) ∧
      frontierLe s.frontier s'.frontier ∧
      applyDelta now (cs.setNode i s') rest = .ok r' ∧ r = consResult i st ev r' := by
  rw [applyDelta] at h
  split at h
  next hn => exact Or.inl ⟨hn, h⟩
  next s hn =>
    split at h
    next => cases h -- `NodeState.applyDelta` failed
    next s' st ev ha =>
      split at h
      next hle =>
        split at h
        next => cases h -- the rest of the loop failed
        next hrec =>
          cases h
          exact Or.inr ⟨s, s', st, ev, _, hn, ha, hle, hrec, rfl⟩
      next => cases h -- the frontier went down

theorem applyDelta_invariant {now : Nat} (P : ClusterState → Prop) {nds : List (Id × NodeDelta)}
    (step : ∀ cs i nd s s' st ev, (i, nd) ∈ nds → P cs → cs.nodeState i = some s →
      s.applyDelta nd now = .ok (s', st, ev) → frontierLe s.frontier s'.frontier → P (cs.setNode i s'))
    {cs : ClusterState} {r : ClusterState × Bool × List (Id × Event)}
    (h : applyDelta now cs nds = .ok r) (h0 : P cs) : P r.1 := by
  induction nds generalizing cs r with
  | nil => cases h; exact h0
  | cons p rest ih =>
    obtain ⟨i, nd⟩ := p
    have step' := fun cs i nd s s' st ev hm => step cs i nd s s' st ev (List.mem_cons_of_mem _ hm)
    rcases applyDelta_cons_spec h with ⟨_, h⟩ | ⟨s, s', st, ev, r', hn, ha, hle, hrec, rfl⟩
    · exact ih step' h h0
    · exact ih (r := r') step' hrec (step cs i nd s s' st ev List.mem_cons_self h0 hn ha hle)

/-- The loop acts member by member. -/
theorem applyDelta_invariant_at {now : Nat} (j : Id) (P : Option NodeState → Prop)
    {nds : List (Id × NodeDelta)}
    (step : ∀ nd s s' st ev, (j, nd) ∈ nds → P (some s) → s.applyDelta nd now = .ok (s', st, ev) →
      frontierLe s.frontier s'.frontier → P (some s'))
    {cs : ClusterState} {r : ClusterState × Bool × List (Id × Event)}
    (h : applyDelta now cs nds = .ok r) (h0 : P (cs.nodeState j)) : P (r.1.nodeState j) := by
  refine applyDelta_invariant (fun c => P (c.nodeState j)) ?_ h h0
  intro c i nd s s' st ev hm hP hn ha hle
  rw [nodeState_setNode]
  by_cases e : j = i
  · subst e
    rw [if_pos rfl]
    exact step nd s s' st ev hm (hn ▸ hP) ha hle
  · rwa [if_neg e]

/-- No copy's frontier goes down, whatever the delta: the loop checks it. -/
theorem applyDelta_frontier_mono {now : Nat} {nds : List (Id × NodeDelta)} {cs : ClusterState}
    {r : ClusterState × Bool × List (Id × Event)} (h : applyDelta now cs nds = .ok r)
    {i : Id} {s : NodeState} (hs : cs.nodeState i = some s) :
    ∃ s', r.1.nodeState i = some s' ∧ frontierLe s.frontier s'.frontier := by
  refine applyDelta_invariant_at i (fun o => ∃ s', o = some s' ∧ frontierLe s.frontier s'.frontier)
    ?_ h ⟨s, hs, frontierLe_refl _⟩
  rintro _ t t' _ _ _ ⟨_, e, hle1⟩ _ hle
  cases e
  exact ⟨t', rfl, frontierLe_trans hle1 hle⟩

theorem applyDelta_unaddressed {now : Nat} {nds : List (Id × NodeDelta)} {cs : ClusterState}
    {r : ClusterState × Bool × List (Id × Event)} (h : applyDelta now cs nds = .ok r) {j : Id}
    (hj : ∀ p ∈ nds, p.1 ≠ j) : r.1.nodeState j = cs.nodeState j :=
  applyDelta_invariant_at j (· = cs.nodeState j) (fun _ _ _ _ _ hm => absurd rfl (hj _ hm)) h rfl

theorem applyDelta_addressed {now : Nat} {nds : List (Id × NodeDelta)}
    (hnd : (nds.map (·.1)).Nodup) {cs : ClusterState} {r : ClusterState × Bool × List (Id × Event)}
    (h : applyDelta now cs nds = .ok r) {p : Id × NodeDelta} (hp : p ∈ nds) {s : NodeState}
    (hs : cs.nodeState p.1 = some s) :
    ∃ s' st es, s.applyDelta p.2 now = .ok (s', st, es) ∧ r.1.nodeState p.1 = some s' := by
  induction nds generalizing cs r with
  | nil => cases hp
  | cons q rest ih =>
    obtain ⟨i, nd⟩ := q
    simp only [List.map_cons, List.nodup_cons] at hnd
    rcases applyDelta_cons_spec h with ⟨hn, h⟩ | ⟨t, t', st, ev, r', hn, ha, _, hrec, rfl⟩
    · rcases List.mem_cons.1 hp with rfl | hp
      · cases hn.symm.trans hs
      · exact ih hnd.2 h hp hs
    · rcases List.mem_cons.1 hp with rfl | hp
      · cases hn.symm.trans hs
        refine ⟨t', st, ev, ha, ?_⟩
        show r'.1.nodeState i = _
        rw [applyDelta_unaddressed hrec (fun q hq e => hnd.1 (List.mem_map.2 ⟨q, hq, e⟩)), nodeState_setNode,
          if_pos rfl]
      · have hs' : (cs.setNode i t').nodeState p.1 = some s := by
          rw [nodeState_setNode, if_neg (fun e => hnd.1 (List.mem_map.2 ⟨p, hp, e⟩)), hs]
        exact ih (r := r') hnd.2 hrec hp hs'

end Chitchat.ClusterState
