/-
Lemmas/Catchup.lean — the external catch-up entry point (`reset_node_state_if_update`) on the ledger
layer: an honest catch-up (the application feeds one node's copy of a member to another node) is the
abstract `catchupAbs`; it preserves the integrity invariant `InvW` (C03) and the full invariant `Inv`
(C02); the executable copy transformation `NodeState.catchupCopy` refines it and keeps copies well
formed.
-/
import ChitchatModel.Lemmas.CopyWF
import ChitchatModel.Lemmas.LedgerRefine
import ChitchatModel.Lemmas.Cluster
import ChitchatModel.Model.Chitchat
namespace Chitchat.Ledger
open Chitchat

/-- Honest external catch-up on the abstract layer: the application feeds copy `s` (fetched from
some node) through `reset_node_state_if_update` on a node whose copy is `d`. Refused when `d` is not
behind or when `s` ends below `d`'s watermark; otherwise the key set becomes `s`'s (the newer entry of
a key present in both is kept), the watermark is never lowered. -/
def catchupAbs (d s : Copy) : Copy :=
  if s.max ≤ d.max then d
  else if s.max < d.gc then d
  else
    { gc := max s.gc d.gc, max := s.max,
      kvs := fun k =>
        match s.kvs k with
        | none => none
        | some e =>
          match d.kvs k with
          | some e0 => if e.ver ≤ e0.ver then some e0 else some e
          | none => some e }

/-- A refused catch-up changes nothing, so only the accepted case is left to prove. -/
theorem catchupAbs_cases {P : Copy → Prop} {d s : Copy} (hd : P d)
    (h : ¬ s.max ≤ d.max → ¬ s.max < d.gc → P (catchupAbs d s)) : P (catchupAbs d s) := by
  by_cases h1 : s.max ≤ d.max
  · rwa [catchupAbs, if_pos h1]
  · by_cases h2 : s.max < d.gc
    · rwa [catchupAbs, if_neg h1, if_pos h2]
    · exact h h1 h2

theorem catchupAbs_invW (H : List Write) (d s : Copy) (hd : InvW H d) (hs : InvW H s) :
    InvW H (catchupAbs d s) := by
  refine catchupAbs_cases hd fun h1 h2 => ?_
  rw [catchupAbs, if_neg h1, if_neg h2]
  refine .of_ent (fun k e he => ?_) ⟨hs.i2.1, Nat.max_le.2 ⟨hs.i2.2, hd.i2.2⟩⟩
  -- every entry is `s`'s, or `d`'s and then at most `d.max < s.max`
  have : s.kvs k = some e ∨ d.kvs k = some e := by grind
  rcases this with h | h
  · exact ⟨hs.i1 k e h, hs.i4 k e h⟩
  · exact ⟨hd.i1 k e h, Nat.le_trans (hd.i4 k e h) (Nat.le_of_not_le h1)⟩

/-- **Honest catch-up preserves the full invariant** (C02 exactness included): the guard
`max_version < last_gc_version → return` is what makes the mid-reset clause `i3b` survive. -/
theorem catchupAbs_inv (H : List Write) (d s : Copy) (hd : Inv H d) (hs : Inv H s) :
    Inv H (catchupAbs d s) := by
  refine catchupAbs_cases hd fun h1 h2 => ?_
  have hw := catchupAbs_invW H d s hd.toInvW hs.toInvW
  rw [catchupAbs, if_neg h1, if_neg h2] at hw ⊢
  refine ⟨hw, ?_, ?_⟩
  · intro k v value st hl (hv : v ≤ s.max)
    show _ ∨ (_ ∧ _ ∧ v ≤ max s.gc d.gc)
    simp only
    rcases hs.i3a k v value st hl hv with hA | ⟨hB1, hB2, hB3⟩
    · rw [hA]
      left
      -- what `d` has for `k` is at most the last write `v`; at `v` it is that write
      cases he0 : d.kvs k with
      | none => rfl
      | some e0 =>
        have h0 := (hd.i1 k e0 he0).2
        have hle : e0.ver ≤ v := ent_le_last hl h0
        have := hl.2.1
        grind only [cases Ent]
    · rw [hB1]
      exact .inr ⟨rfl, hB2, Nat.le_trans hB3 (Nat.le_max_left _ _)⟩
  · intro k v value st hl ht (hmax : s.max < v) (hgc : v ≤ max s.gc d.gc)
    -- `v ≤ d.gc` is excluded: `d.gc ≤ s.max < v`
    have hv : v ≤ s.gc := le_of_le_max_of_lt hgc (Nat.lt_of_le_of_lt (Nat.le_of_not_lt h2) hmax)
    simp only
    rw [hs.i3b k v value st hl ht hmax hv]

end Chitchat.Ledger

namespace Chitchat
open NodeState Ledger

/-! ### the key-value loop of the catch-up -/

theorem catchupFold_fst (s : NodeState) (evs : List Event) (kvs : List (Bytes × VV)) :
    (Node.catchupFold (s, evs) kvs).1 = s.storeAll kvs := by
  unfold Node.catchupFold storeAll
  induction kvs generalizing s evs with
  | nil => rfl
  | cons p rest ih => exact ih _ _

theorem catchupFold_lookup (kvs : List (Bytes × VV)) (hnd : (kvs.map (·.1)).Nodup) :
    ∀ (s : NodeState) (evs : List Event) (k : Bytes),
      AL.lookup k (Node.catchupFold (s, evs) kvs).1.kvs =
        match AL.lookup k kvs with
        | none => AL.lookup k s.kvs
        | some u =>
          match AL.lookup k s.kvs with
          | some old => if old.version ≥ u.version then some old else some u
          | none => some u := by
  intro s evs k
  rw [catchupFold_fst]
  exact storeAll_lookup hnd s k

/-! ### what `reset_node_state_if_update` does to a copy -/

/-- What `reset_node_state_if_update` does to an existing copy `d` (the `Node`-level function also
creates the copy, registers the member with the failure detector and reports the events). -/
def NodeState.catchupCopy (d : NodeState) (kvs : List (Bytes × VV)) (mx gc : Nat) : NodeState :=
  if d.maxVersion ≥ mx then d
  else if mx < d.lastGc then d
  else
    let s1 := (Node.catchupFold (d, []) kvs).1
    let supplied := kvs.map (·.1)
    let s2 : NodeState := { s1 with kvs := s1.kvs.filter (fun p => supplied.contains p.1) }
    { s2 with lastGc := max gc s2.lastGc, maxVersion := max mx s2.maxVersion }

theorem catchupCopy_of_ge (d : NodeState) (kvs : List (Bytes × VV)) (mx gc : Nat) (h : d.maxVersion ≥ mx) :
    d.catchupCopy kvs mx gc = d :=
  if_pos h

theorem catchupCopy_of_lt_gc (d : NodeState) (kvs : List (Bytes × VV)) (mx gc : Nat) (h : mx < d.lastGc) :
    d.catchupCopy kvs mx gc = d := by
  unfold NodeState.catchupCopy
  rw [if_pos h]
  split <;> rfl

theorem catchupCopy_of_behind (d : NodeState) (kvs : List (Bytes × VV)) (mx gc : Nat)
    (h1 : ¬ d.maxVersion ≥ mx) (h2 : ¬ mx < d.lastGc) :
    d.catchupCopy kvs mx gc =
      { d.storeAll kvs with
        kvs := (d.storeAll kvs).kvs.filter (fun p => (kvs.map (·.1)).contains p.1),
        lastGc := max gc d.lastGc, maxVersion := max mx (d.storeAll kvs).maxVersion } := by
  unfold NodeState.catchupCopy
  rw [if_neg h1, if_neg h2, catchupFold_fst]
  simp only [storeAll_gc]

theorem catchupCopy_ne {d : NodeState} {kvs : List (Bytes × VV)} {mx gc : Nat} (h : d.catchupCopy kvs mx gc ≠ d) :
    ¬ d.maxVersion ≥ mx ∧ ¬ mx < d.lastGc :=
  ⟨fun h1 => h (catchupCopy_of_ge d kvs mx gc h1), fun h2 => h (catchupCopy_of_lt_gc d kvs mx gc h2)⟩

theorem catchupCopy_lt (d : NodeState) (kvs : List (Bytes × VV)) (mx gc : Nat)
    (h1 : ¬ d.maxVersion ≥ mx) (h2 : ¬ mx < d.lastGc) :
    frontierLt d.frontier (d.catchupCopy kvs mx gc).frontier := by
  rw [catchupCopy_of_behind d kvs mx gc h1 h2]
  -- the watermark is not lowered, the max version becomes at least `mx`
  have hmax : d.maxVersion < max mx (d.storeAll kvs).maxVersion :=
    Nat.lt_of_lt_of_le (Nat.lt_of_not_le h1) (Nat.le_max_left _ _)
  exact frontierLt_of_le_of_snd_lt (frontierLe_of_le_le (Nat.le_max_right _ _) (Nat.le_of_lt hmax)) hmax

theorem catchupCopy_frontier (d : NodeState) (kvs : List (Bytes × VV)) (mx gc : Nat) :
    frontierLe d.frontier (d.catchupCopy kvs mx gc).frontier := by
  by_cases h : d.catchupCopy kvs mx gc = d
  · rw [h]
    exact frontierLe_refl _
  · exact (catchupCopy_lt d kvs mx gc (catchupCopy_ne h).1 (catchupCopy_ne h).2).le

theorem catchupCopy_keys (d : NodeState) (kvs : List (Bytes × VV)) (mx gc : Nat)
    (h : d.catchupCopy kvs mx gc ≠ d) : ∀ p ∈ (d.catchupCopy kvs mx gc).kvs, p.1 ∈ kvs.map (·.1) := by
  rw [catchupCopy_of_behind d kvs mx gc (catchupCopy_ne h).1 (catchupCopy_ne h).2]
  exact fun p hp => List.contains_iff_mem.1 (List.mem_filter.1 hp).2

theorem catchupCopy_supplied (d : NodeState) (kvs : List (Bytes × VV)) (mx gc : Nat)
    (h : d.catchupCopy kvs mx gc ≠ d) (kv : Bytes × VV) (hkv : kv ∈ kvs) :
    ∃ v', AL.lookup kv.1 (d.catchupCopy kvs mx gc).kvs = some v' ∧ kv.2.version ≤ v'.version := by
  rw [catchupCopy_of_behind d kvs mx gc (catchupCopy_ne h).1 (catchupCopy_ne h).2]
  obtain ⟨v', hv', hle⟩ := storeAll_kept d hkv
  refine ⟨v', ?_, hle⟩
  dsimp only
  rw [AL.lookup_filter_key (fun k => (kvs.map (·.1)).contains k), hv',
    if_pos (List.contains_iff_mem.2 (List.mem_map.2 ⟨kv, hkv, rfl⟩))]

theorem resetNodeStateIfUpdate_spec (n : Node) (i : Id) (kvs : List (Bytes × VV)) (mx gc : Nat) :
    ∃ n' evs, n.resetNodeStateIfUpdate i kvs mx gc = .ok (n', evs) ∧
      (n'.fd = n.fd ∨ n'.fd = n.fd.createWindow i) ∧
      ∀ s, n.cs.nodeState i = some s → n'.cs.nodeState i = some (s.catchupCopy kvs mx gc) := by
  unfold Node.resetNodeStateIfUpdate
  dsimp only
  generalize hcs : (if (n.cs.lastHeartbeatIfDeleted i).isNone = true then n.cs.initIfAbsent i else n.cs) = cs
  have hpres : ∀ s, n.cs.nodeState i = some s → cs.nodeState i = some s := fun s hs => by
    rwa [← hcs, ClusterState.initIfAbsent_of_some hs, ite_self]
  cases hc : cs.nodeState i with
  | none => exact ⟨_, _, rfl, Or.inl rfl, fun s hs => nomatch (hpres s hs).symm.trans hc⟩
  | some c =>
    have hcs' : ∀ s, n.cs.nodeState i = some s → s = c :=
      fun s hs => Option.some.inj ((hpres s hs).symm.trans hc)
    dsimp only
    by_cases h1 : c.maxVersion ≥ mx
    · rw [if_pos h1]
      refine ⟨_, _, rfl, Or.inl rfl, fun s hs => ?_⟩
      rwa [hcs' s hs, catchupCopy_of_ge c kvs mx gc h1]
    · rw [if_neg h1]
      by_cases h2 : mx < c.lastGc
      · rw [if_pos h2]
        refine ⟨_, _, rfl, Or.inl rfl, fun s hs => ?_⟩
        rwa [hcs' s hs, catchupCopy_of_lt_gc c kvs mx gc h2]
      · -- the final assertion of the Rust function holds
        have hlt := catchupCopy_lt c kvs mx gc h1 h2
        unfold NodeState.catchupCopy at hlt
        rw [if_neg h1, if_neg h2] at hlt
        rw [if_neg h2, if_pos hlt]
        refine ⟨_, _, rfl, Or.inr rfl, fun s hs => ?_⟩
        rw [hcs' s hs, ClusterState.nodeState_setNode, if_pos rfl]
        unfold NodeState.catchupCopy
        rw [if_neg h1, if_neg h2]

/-! ### an honest catch-up -/

theorem absCopy_catchupCopy (d s : NodeState) (hs : WFCopy s) (hd : WFCopy d) :
    absCopy (d.catchupCopy s.kvs s.maxVersion s.lastGc) = catchupAbs (absCopy d) (absCopy s) := by
  unfold catchupAbs
  show _ = if s.maxVersion ≤ d.maxVersion then _ else if s.maxVersion < d.lastGc then _ else _
  by_cases h1 : s.maxVersion ≤ d.maxVersion
  · rw [if_pos h1, catchupCopy_of_ge d _ _ _ h1]
  · by_cases h2 : s.maxVersion < d.lastGc
    · rw [if_neg h1, if_pos h2, catchupCopy_of_lt_gc d _ _ _ h2]
    · rw [if_neg h1, if_neg h2, catchupCopy_of_behind _ _ _ _ h1 h2]
      have hnd : (s.kvs.map (·.1)).Nodup := hs.sorted.nodup
      have hmaxle : (d.storeAll s.kvs).maxVersion ≤ s.maxVersion :=
        storeAll_max_le (Nat.le_of_not_le h1) fun kv hkv => hs.leMax kv.1 kv.2 (AL.lookup_of_mem_nodup hnd hkv)
      unfold absCopy
      rw [Copy.mk.injEq]
      refine ⟨rfl, Nat.max_eq_left hmaxle, ?_⟩
      funext k
      dsimp only
      have hc : (s.kvs.map (·.1)).contains k = (AL.lookup k s.kvs).isSome :=
        Bool.eq_iff_iff.2 (List.contains_iff_mem.trans (AL.lookup_isSome_iff k s.kvs).symm)
      rw [AL.lookup_filter_key (fun x => (s.kvs.map (·.1)).contains x) k, hc, storeAll_lookup hnd]
      cases AL.lookup k s.kvs with
      | none => rfl
      | some u =>
        cases AL.lookup k d.kvs with
        | none => rfl
        | some old =>
          -- `Option.map` goes through the `if`
          exact apply_ite (Option.map entOfVV) (u.version ≤ old.version) (some old) (some u)

/-- That two entries never share a version comes from the ledger: both copies hold only writes of the
owner (`InvW`). -/
theorem wfCopy_catchupCopy (H : List Write) (d s : NodeState) (hs : WFCopy s) (hd : WFCopy d)
    (his : InvW H (absCopy s)) (hid : InvW H (absCopy d)) :
    WFCopy (d.catchupCopy s.kvs s.maxVersion s.lastGc) := by
  have hiw : InvW H (absCopy (d.catchupCopy s.kvs s.maxVersion s.lastGc)) := by
    rw [absCopy_catchupCopy d s hs hd]
    exact catchupAbs_invW H _ _ hid his
  have hsorted : SortedKeys (d.catchupCopy s.kvs s.maxVersion s.lastGc).kvs := by
    by_cases h : d.catchupCopy s.kvs s.maxVersion s.lastGc = d
    · rw [h]
      exact hd.sorted
    · rw [catchupCopy_of_behind _ _ _ _ (catchupCopy_ne h).1 (catchupCopy_ne h).2]
      exact List.Pairwise.filter _ (storeAll_sorted s.kvs hd.sorted)
  have hwrite : ∀ p ∈ (d.catchupCopy s.kvs s.maxVersion s.lastGc).kvs,
      AL.lookup p.1 (d.catchupCopy s.kvs s.maxVersion s.lastGc).kvs = some p.2 ∧
      H[p.2.version - 1]? = some ⟨p.1, p.2.value, p.2.status.toM⟩ := by
    intro p hp
    have lp := AL.lookup_of_mem_nodup hsorted.nodup hp
    exact ⟨lp, (hiw.i1 p.1 (entOfVV p.2) (absCopy_kvs lp)).2⟩
  refine ⟨hsorted, ?_, ?_⟩
  · -- distinct versions: two entries at one version are the same write, so they have the same key
    intro p hp q hq hv
    obtain ⟨lp, ip⟩ := hwrite p hp
    obtain ⟨lq, iq⟩ := hwrite q hq
    rw [hv, iq] at ip
    have hkey : q.1 = p.1 := congrArg Write.key (Option.some.inj ip)
    rw [← hkey, lq] at lp
    exact Prod.ext hkey.symm (Option.some.inj lp).symm
  · exact fun k v hl => hiw.i4 k (entOfVV v) (absCopy_kvs hl)

end Chitchat
