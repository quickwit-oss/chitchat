/-
Lemmas/Listener.lean — the range that `trigger_event` scans holds every non-empty prefix of the key
and not the empty one, which comes first in a sorted subscription map.
-/
import ChitchatModel.Model.Listener
import ChitchatModel.Model.Wire
import ChitchatModel.Lemmas.Order
namespace Chitchat

theorem utf8Len_pos (b : UInt8) : 0 < utf8Len b := by
  unfold utf8Len
  grind

/-- A valid UTF-8 string contains its whole first character: in each class of lead byte `validUtf8`
asks for the continuation bytes. -/
theorem utf8Len_le_length (b : UInt8) (t : Bytes) (h : validUtf8 (b :: t) = true) :
    utf8Len b ≤ (b :: t).length := by
  -- the `cons` case of `validUtf8`, computed through its recursor: `unfold` would first prove the
  -- unfolding equation of `validUtf8`, which is slow to check
  delta validUtf8 at h
  change (if b < 0x80 then _ else _) = true at h
  unfold utf8Len
  by_cases h1 : b < 0x80
  · rw [if_pos h1]; exact Nat.le_add_left 1 _
  rw [if_neg h1] at h ⊢
  by_cases h2 : b < 0xC2
  · rw [if_pos h2] at h; cases h
  rw [if_neg h2] at h
  by_cases h3 : b < 0xE0
  · rw [if_pos h3] at h ⊢
    rcases t with _ | ⟨_, _⟩
    · cases h
    · exact Nat.le_add_left 2 _
  rw [if_neg h3] at h ⊢
  by_cases h4 : b < 0xF0
  · rw [if_pos h4] at h ⊢
    rcases t with _ | ⟨_, _ | ⟨_, _⟩⟩
    · cases h
    · cases h
    · exact Nat.le_add_left 3 _
  rw [if_neg h4] at h ⊢
  by_cases h5 : b < 0xF5
  · rw [if_pos h5] at h
    rcases t with _ | ⟨_, _ | ⟨_, _ | ⟨_, _⟩⟩⟩
    · cases h
    · cases h
    · cases h
    · exact Nat.le_add_left 4 _
  · rw [if_neg h5] at h; cases h

theorem bytesLe_of_isPrefix {p key : Bytes} (h : isPrefix p key = true) : bytesLe p key = true := by
  unfold bytesLe
  rw [not_lt_of_isPrefix h]
  rfl

/-- **Range lemma.** A non-empty valid UTF-8 prefix of the key lies between the key's first
character and the key itself, bytewise. -/
theorem prefix_in_range (p key : Bytes) (hp : isPrefix p key = true) (hne : p ≠ [])
    (hv : validUtf8 p = true) :
    bytesLe (key.take (firstCharLen key)) p = true ∧ bytesLe p key = true := by
  refine ⟨bytesLe_of_isPrefix ?_, bytesLe_of_isPrefix hp⟩
  obtain ⟨r, rfl⟩ := isPrefix_iff_prefix.1 hp
  cases p with
  | nil => exact absurd rfl hne
  | cons b t =>
    -- the key's first character is that of `p`, which `p` holds in full
    rw [isPrefix_iff_prefix]
    show ((b :: t) ++ r).take (utf8Len b) <+: b :: t
    rw [List.take_append_of_le_length (utf8Len_le_length b t hv)]
    exact List.take_prefix _ _

/-- The empty prefix is below the range that `trigger_event` scans for a non-empty key. -/
theorem nil_not_in_range {key : Bytes} (hkey : key ≠ []) :
    (bytesLe (key.take (firstCharLen key)) [] && bytesLe [] key) = false := by
  cases key with
  | nil => exact absurd rfl hkey
  | cons b t =>
    show (bytesLe ((b :: t).take (utf8Len b)) [] && bytesLe [] (b :: t)) = false
    cases hm : utf8Len b with
    | zero => exact absurd hm (Nat.ne_of_gt (utf8Len_pos b))
    | succ m => rfl

theorem flatten_map_filter_congr {α β : Type} (q q' : α → Bool) (f : α → List β) (l : List α)
    (h : ∀ x ∈ l, q x ≠ q' x → f x = []) :
    ((l.filter q).map f).flatten = ((l.filter q').map f).flatten := by
  induction l with
  | nil => rfl
  | cons a t ih =>
    have iht := ih fun x hx => h x (List.mem_cons_of_mem _ hx)
    have ha := h a List.mem_cons_self
    -- `a` is kept by both filters, by neither, or by one only, and then `f a = []`
    cases hq : q a <;> cases hq' : q' a <;> rw [hq, hq'] at ha <;> simp [hq, hq', iht, ha]

/-- In a sorted subscription map the empty prefix, if present, comes first: its listeners are called
with the whole key, then come the calls for the non-empty prefixes. -/
theorem Listeners.matching_split {ls : Listeners} (hs : SortedKeys ls) (key value : Bytes) :
    ls.matching key value = ((AL.lookup [] ls).getD []).map (fun id => (id, key, value)) ++
      Listeners.matching (ls.filter (fun p => p.1 ≠ [])) key value := by
  cases ls with
  | nil => rfl
  | cons e rest =>
    obtain ⟨p0, ids0⟩ := e
    -- nothing is below the empty prefix, so no later entry has it
    have hrest : ∀ q ∈ rest, q.1 ≠ [] := fun q hq hnil =>
      List.not_lt_nil _ (bytesLt_iff_lt.1 (hnil ▸ (List.pairwise_cons.1 hs).1 q hq))
    have hfilter : rest.filter (fun p => p.1 ≠ []) = rest :=
      List.filter_eq_self.2 fun q hq => decide_eq_true (hrest q hq)
    have hlookup : AL.lookup ([] : Bytes) rest = none :=
      AL.lookup_eq_none fun hmem => by
        obtain ⟨q, hq, hnil⟩ := List.mem_map.1 hmem
        exact hrest q hq hnil
    rw [List.filter_cons, hfilter]
    cases p0 with
    | nil => rfl
    | cons a t =>
      rw [AL.lookup_cons, if_neg (List.cons_ne_nil a t).symm, hlookup]
      rfl

end Chitchat
