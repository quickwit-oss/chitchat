/-
Lemmas/WireRT.lean — round trips of the primitive encoders, identifiers, digest entries and ops.
Every composite round trip is "unfold both sides, rewrite with the round trips of the parts".
-/
import ChitchatModel.Lemmas.WireWF
namespace Chitchat

theorem u8b_toNat (n : Nat) : (u8b n).toNat = n % 256 := by
  simp [u8b, UInt8.toNat_ofNat']

/-- One more little-endian digit: rewriting with it down to `256 ^ 0` writes `n % 256 ^ k` as the sum
of its `k` digits. -/
theorem mod_pow_succ (n k : Nat) :
    n % 256 ^ (k + 1) = n % 256 ^ k + 256 ^ k * (u8b (n / 256 ^ k)).toNat := by
  rw [Nat.pow_succ, Nat.mod_mul, u8b_toNat]

theorem decU16_u16le {n : Nat} (h : n < 65536) (r : Bytes) : decU16 (u16le n ++ r) = some (n, r) := by
  have e : n % 256 ^ 2 = n := Nat.mod_eq_of_lt h
  simp only [mod_pow_succ] at e
  simp only [Nat.reducePow, Nat.mod_one, Nat.div_one, Nat.zero_add, Nat.one_mul] at e
  -- `decU16 (u16le n ++ r)` computes to `some (the sum of the digits, r)`
  exact congrArg (fun x => some (x, r)) e

-- `omega` on the eight digits works but pays for arithmetic on 2^56-sized coefficients.
theorem decU64_u64le {n : Nat} (h : n < two64) (r : Bytes) : decU64 (u64le n ++ r) = some (n, r) := by
  have e : n % 256 ^ 8 = n := Nat.mod_eq_of_lt h
  simp only [mod_pow_succ] at e
  simp only [Nat.reducePow, Nat.mod_one, Nat.div_one, Nat.zero_add, Nat.one_mul] at e
  exact congrArg (fun x => some (x, r)) e

theorem takeN_append {n : Nat} {s : Bytes} (h : s.length = n) (r : Bytes) :
    takeN n (s ++ r) = some (s, r) := by
  subst h; simp [takeN]

theorem decStr_encStr {s : Bytes} (h : WFStr s) (r : Bytes) : decStr (encStr s ++ r) = some (s, r) := by
  have hl : s.length < 65536 := Nat.lt_succ_of_le h.len
  simp [decStr, encStr, Nat.mod_eq_of_lt hl, decU16_u16le hl, takeN_append rfl, h.utf8]

theorem decAddr_encAddr {a : Addr} (h : WFAddr a) (r : Bytes) : decAddr (encAddr a ++ r) = some (a, r) := by
  cases h <;> simp [encAddr, decAddr, decU8, takeN_append, decU16_u16le, *]

theorem decId_encId {i : Id} (h : WFId i) (r : Bytes) : decId (encId i ++ r) = some (i, r) := by
  simp [decId, encId, decStr_encStr h.nodeId, decU64_u64le h.gen, decAddr_encAddr h.addr]

theorem decNodeDigest_encNodeDigest {d : NodeDigest} (h : WFNodeDigest d) (r : Bytes) :
    decNodeDigest (encNodeDigest d ++ r) = some (d, r) := by
  simp [decNodeDigest, encNodeDigest, decU64_u64le h.hb, decU64_u64le h.gc, decU64_u64le h.mx]

theorem decStatusM_code (s : StatusM) (r : Bytes) : decStatusM (s.code :: r) = some (s, r) := by
  cases s <;> simp [decStatusM, decU8, StatusM.code]

theorem decOp_encOp {op : DeltaOp} (h : WFOp op) (r : Bytes) : decOp (encOp op ++ r) = some (op, r) := by
  cases h with
  | node i g f hi hg hf =>
    simp [encOp, decOp, decU8, decId_encId hi, decU64_u64le hg, decU64_u64le hf]
  | kv m hm =>
    simp [encOp, decOp, decU8, encKVM, decStr_encStr hm.key, decStr_encStr hm.value,
      decU64_u64le hm.version, decStatusM_code]
  | setMax v hv => simp [encOp, decOp, decU8, decU64_u64le hv]

theorem decOps_encOps (ops : List DeltaOp) (h : ∀ op ∈ ops, WFOp op) (fuel : Nat)
    (hf : (ops.map encOp).flatten.length ≤ fuel) :
    decOps fuel (ops.map encOp).flatten = some ops := by
  induction ops generalizing fuel with
  | nil => cases fuel <;> simp [decOps]
  | cons op rest ih =>
    have hlen : 0 < (encOp op).length := List.length_pos_iff.2 (encOp_ne_nil op)
    simp only [List.map_cons, List.flatten_cons, List.length_append] at hf ⊢
    cases fuel with
    | zero => omega
    | succ fuel =>
      rw [decOps, if_neg (List.append_ne_nil_of_left_ne_nil (encOp_ne_nil op) _),
        decOp_encOp (h op List.mem_cons_self)]
      simp only
      -- the rest is shorter than the whole, which is at most `fuel + 1`
      rw [ih (fun o ho => h o (List.mem_cons_of_mem _ ho)) fuel (by omega)]

end Chitchat
