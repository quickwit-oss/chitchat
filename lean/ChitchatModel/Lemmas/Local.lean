/-
Lemmas/Local.lean — the local key-value API (C06): every write is a no-op or stores one entry at the next
version (`bump`); what `get` and a GC pass return; the representation invariant `WFLocal` and its preservation.
-/
import ChitchatModel.Lemmas.Order
import ChitchatModel.Lemmas.NodeState
namespace Chitchat
open NodeState

namespace NodeState

/-! ### local writes

Each of `set`, `set_with_ttl`, `delete`, `delete_after_ttl` either changes nothing or stores one entry at
version `max + 1`. -/

def bump (s : NodeState) (key value : Bytes) (st : Status) : NodeState :=
  { s with maxVersion := s.maxVersion + 1,
           kvs := AL.insert bytesLt key ⟨value, s.maxVersion + 1, st⟩ s.kvs }

/-- `setVersionedValue` at the next version always stores. -/
theorem svv_fresh {s : NodeState} (h : EntriesLeMax s) (key value : Bytes) (st : Status) :
    (s.setVersionedValue key ⟨value, s.maxVersion + 1, st⟩).1 = bump s key value st := by
  have hn : newer s key ⟨value, s.maxVersion + 1, st⟩ = true :=
    newer_eq_true_iff.2 fun old hl => Nat.lt_succ_of_le (h key old hl)
  rw [svv_eq, hn]
  simp [bump, Nat.max_eq_left]

theorem bump_fresh (s : NodeState) (key value : Bytes) (st : Status) :
    (bump s key value st).maxVersion = s.maxVersion + 1 ∧
    AL.lookup key (bump s key value st).kvs = some ⟨value, s.maxVersion + 1, st⟩ ∧
    (bump s key value st).lastGc = s.lastGc :=
  ⟨rfl, AL.lookup_insert_self _ _ _ _, rfl⟩

theorem set_eq (s : NodeState) (key value : Bytes) (h : EntriesLeMax s) :
    (s.set key value).1 = s ∨ (s.set key value).1 = bump s key value .set := by
  unfold NodeState.set
  split
  · split
    · exact Or.inl rfl
    · exact Or.inr (svv_fresh h ..)
  · exact Or.inr (svv_fresh h ..)

theorem setWithTtl_eq (s : NodeState) (key value : Bytes) (now : Nat) (h : EntriesLeMax s) :
    (s.setWithTtl key value now).1 = s ∨ (s.setWithTtl key value now).1 = bump s key value (.ttl now) := by
  unfold NodeState.setWithTtl
  split
  · split
    · exact Or.inl rfl
    · exact Or.inr (svv_fresh h ..)
  · exact Or.inr (svv_fresh h ..)

theorem delete_eq (s : NodeState) (key : Bytes) (now : Nat) :
    s.delete key now = s ∨ s.delete key now = bump s key [] (.deleted now) := by
  unfold NodeState.delete
  split
  · exact Or.inl rfl
  · exact Or.inr rfl

theorem deleteAfterTtl_eq (s : NodeState) (key : Bytes) (now : Nat) :
    s.deleteAfterTtl key now = s ∨ ∃ v, s.deleteAfterTtl key now = bump s key v (.ttl now) := by
  unfold NodeState.deleteAfterTtl
  split
  · exact Or.inl rfl
  · split
    · exact Or.inl rfl
    · exact Or.inr ⟨_, rfl⟩

/-! ### tombstone GC: the watermark is a running maximum -/

theorem foldl_max_spec {α : Type} (f : α → Nat) (l : List α) (g : Nat) :
    g ≤ l.foldl (fun m p => max (f p) m) g ∧
    (∀ p ∈ l, f p ≤ l.foldl (fun m p => max (f p) m) g) ∧
    (l.foldl (fun m p => max (f p) m) g = g ∨ ∃ p ∈ l, f p = l.foldl (fun m p => max (f p) m) g) := by
  induction l generalizing g with
  | nil => simp
  | cons a t ih =>
    obtain ⟨h1, h2, h3⟩ := ih (max (f a) g)
    simp only [List.foldl_cons]
    refine ⟨Nat.le_trans (Nat.le_max_right _ _) h1,
      List.forall_mem_cons.2 ⟨Nat.le_trans (Nat.le_max_left _ _) h1, h2⟩, ?_⟩
    rcases h3 with h3 | ⟨p, hp, h3⟩
    · by_cases hc : f a ≤ g
      · exact Or.inl (h3.trans (Nat.max_eq_right hc))
      · exact Or.inr ⟨a, List.mem_cons_self, (h3.trans (Nat.max_eq_left (Nat.le_of_not_le hc))).symm⟩
    · exact Or.inr ⟨p, List.mem_cons_of_mem _ hp, h3⟩

theorem gcKeys_watermark (s : NodeState) (now grace : Nat) :
    s.lastGc ≤ (s.gcKeys now grace).lastGc ∧
    (∀ p ∈ s.kvs, expired now grace p.2 = true → p.2.version ≤ (s.gcKeys now grace).lastGc) ∧
    ((s.gcKeys now grace).lastGc = s.lastGc ∨
      ∃ p ∈ s.kvs, expired now grace p.2 = true ∧ p.2.version = (s.gcKeys now grace).lastGc) := by
  obtain ⟨h1, h2, h3⟩ := foldl_max_spec (fun p : Bytes × VV => p.2.version)
    (s.kvs.filter (fun p => expired now grace p.2)) s.lastGc
  refine ⟨h1, fun p hp he => h2 p (List.mem_filter.2 ⟨hp, he⟩), h3.imp_right ?_⟩
  rintro ⟨p, hp, h⟩
  exact ⟨p, (List.mem_filter.1 hp).1, (List.mem_filter.1 hp).2, h⟩

end NodeState

theorem NodeState.get_eq_some_iff (s : NodeState) (k v : Bytes) :
    s.get k = some v ↔ ∃ vv, AL.lookup k s.kvs = some vv ∧ vv.isDeleted = false ∧ vv.value = v := by
  unfold NodeState.get getVersioned
  cases AL.lookup k s.kvs with
  | none => simp
  | some vv => cases hd : vv.isDeleted <;> simp [hd]

theorem NodeState.expired_iff {now grace : Nat} {v : VV} :
    expired now grace v = true ↔ ∃ t, v.status.timeOfStart = some t ∧ t + grace ≤ now := by
  unfold expired
  cases v.status.timeOfStart <;> simp

/-- Representation invariant of a copy maintained through the local API. -/
structure WFLocal (s : NodeState) : Prop where
  sorted : SortedKeys s.kvs
  leMax : EntriesLeMax s

theorem wfLocal_empty : WFLocal NodeState.empty :=
  ⟨List.Pairwise.nil, fun _ _ h => nomatch h⟩

theorem WFLocal.mem_iff {s : NodeState} (h : WFLocal s) {k : Bytes} {v : VV} :
    (k, v) ∈ s.kvs ↔ AL.lookup k s.kvs = some v :=
  ⟨AL.lookup_of_mem_nodup h.sorted.nodup, AL.mem_of_lookup⟩

/-- An effective write is a `setVersionedValue` (`svv_fresh`), which keeps both parts of the invariant. -/
theorem wfLocal_bump {s : NodeState} (h : WFLocal s) (key value : Bytes) (st : Status) :
    WFLocal (bump s key value st) :=
  svv_fresh h.leMax key value st ▸ ⟨svv_sorted s key _ h.sorted, svv_entriesLeMax s key _ h.leMax⟩

theorem wfLocal_set {s : NodeState} (h : WFLocal s) (key value : Bytes) : WFLocal (s.set key value).1 := by
  rcases set_eq s key value h.leMax with e | e <;> rw [e]
  · exact h
  · exact wfLocal_bump h ..

theorem wfLocal_setWithTtl {s : NodeState} (h : WFLocal s) (key value : Bytes) (now : Nat) :
    WFLocal (s.setWithTtl key value now).1 := by
  rcases setWithTtl_eq s key value now h.leMax with e | e <;> rw [e]
  · exact h
  · exact wfLocal_bump h ..

theorem wfLocal_delete {s : NodeState} (h : WFLocal s) (key : Bytes) (now : Nat) :
    WFLocal (s.delete key now) := by
  rcases delete_eq s key now with e | e <;> rw [e]
  · exact h
  · exact wfLocal_bump h ..

theorem wfLocal_deleteAfterTtl {s : NodeState} (h : WFLocal s) (key : Bytes) (now : Nat) :
    WFLocal (s.deleteAfterTtl key now) := by
  rcases deleteAfterTtl_eq s key now with e | ⟨v, e⟩ <;> rw [e]
  · exact h
  · exact wfLocal_bump h ..

theorem wfLocal_gcKeys {s : NodeState} (h : WFLocal s) (now grace : Nat) : WFLocal (s.gcKeys now grace) := by
  refine ⟨List.Pairwise.filter _ h.sorted, fun k v hv => ?_⟩
  have hmem : (k, v) ∈ s.kvs := (List.mem_filter.1 (AL.mem_of_lookup hv)).1
  exact h.leMax k v (h.mem_iff.1 hmem)

theorem gcKeys_lastGc_le {s : NodeState} (h : WFLocal s) (now grace : Nat) :
    (s.gcKeys now grace).lastGc ≤ max s.lastGc s.maxVersion := by
  rcases (gcKeys_watermark s now grace).2.2 with h3 | ⟨p, hp, _, hv⟩
  · exact h3 ▸ Nat.le_max_left _ _
  · exact hv ▸ Nat.le_trans (h.leMax p.1 p.2 (h.mem_iff.1 hp)) (Nat.le_max_right _ _)

theorem gcKeys_lookup {s : NodeState} (h : SortedKeys s.kvs) (now grace : Nat) (k : Bytes) :
    AL.lookup k (s.gcKeys now grace).kvs =
      match AL.lookup k s.kvs with
      | some v => if expired now grace v then none else some v
      | none => none := by
  rw [gcKeys, AL.lookup_filter_of_nodup h.nodup]
  cases AL.lookup k s.kvs with
  | none => rfl
  | some v => dsimp only; cases expired now grace v <;> rfl

end Chitchat
