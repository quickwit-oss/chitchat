/-
Lemmas/Writer.lean — the stream writer (`CompressedStreamWriter`): `flush_block` by one equation, the
flush loop, and the byte budget: after appending an item that fits one block, the finished stream is
never longer than the upper bound computed *before* appending it.
-/
import ChitchatModel.Lemmas.WireWF
namespace Chitchat

/-- What one `flush_block` writes for the pending bytes `raw`. -/
def frame (C : Compressor) (raw : Bytes) : Bytes :=
  match C.compress raw with
  | some c => [1] ++ u16le c.length ++ c
  | none => [2] ++ u16le raw.length ++ raw

theorem frame_length_le {C : Compressor} (hC : C.Sound) (raw : Bytes) :
    (frame C raw).length ≤ 3 + raw.length := by
  unfold frame
  split
  · simp only [List.length_append, List.length_cons, List.length_nil, u16le_length]
    exact Nat.add_le_add_left (hC.shrink _ _ ‹_›) 3
  · simp only [List.length_append, List.length_cons, List.length_nil, u16le_length]
    exact Nat.le_refl _

theorem flushBlock_eq (C : Compressor) (w : Writer) :
    w.flushBlock C = { w with
      output := w.output ++ (if w.block = [] then [] else frame C (w.block.take w.threshold)),
      block := w.block.drop w.threshold } := by
  obtain ⟨o, b, t⟩ := w
  simp only [Writer.flushBlock, frame, Nat.min_comm b.length, ← List.take_eq_take_min,
    ← List.drop_eq_drop_min, List.length_take]
  by_cases hb : b = []
  · simp [hb]
  · cases C.compress (b.take t) <;> simp [hb]

theorem flushBlock_threshold (C : Compressor) (w : Writer) : (w.flushBlock C).threshold = w.threshold := by
  rw [flushBlock_eq]

theorem flushBlock_block (C : Compressor) (w : Writer) :
    (w.flushBlock C).block = w.block.drop w.threshold := by
  rw [flushBlock_eq]

/-- One flush adds at most a block header to what the writer holds. -/
theorem flushBlock_size_le {C : Compressor} (hC : C.Sound) (w : Writer) :
    (w.flushBlock C).output.length + (w.flushBlock C).block.length ≤
      w.output.length + w.block.length + 3 := by
  rw [flushBlock_eq]
  split
  · simp [*]
  · have := frame_length_le hC (w.block.take w.threshold)
    simp only [List.length_append, List.length_take, List.length_drop] at this ⊢
    omega

theorem flushLoop_induct (C : Compressor) (P : Writer → Prop) (step : ∀ w, P w → P (w.flushBlock C))
    (fuel : Nat) (w : Writer) (h : P w) : P (Writer.flushLoop C fuel w) := by
  induction fuel generalizing w with
  | zero => exact h
  | succ fuel ih =>
    simp only [Writer.flushLoop]
    split
    · exact ih _ (step w h)
    · exact h

theorem flushLoop_threshold (C : Compressor) (fuel : Nat) (w : Writer) :
    (Writer.flushLoop C fuel w).threshold = w.threshold :=
  flushLoop_induct C (·.threshold = w.threshold) (fun w' h => by rw [flushBlock_threshold, h]) fuel w rfl

theorem flushLoop_noop (C : Compressor) (fuel : Nat) (w : Writer) (h : w.block.length ≤ w.threshold) :
    Writer.flushLoop C fuel w = w := by
  cases fuel with
  | zero => rfl
  | succ n => rw [Writer.flushLoop, if_neg (by omega)]

theorem flushLoop_block_le (C : Compressor) (fuel : Nat) (w : Writer) (h0 : 0 < w.threshold)
    (hf : w.block.length < fuel) : (Writer.flushLoop C fuel w).block.length ≤ w.threshold := by
  induction fuel generalizing w with
  | zero => exact absurd hf (Nat.not_lt_zero _)
  | succ fuel ih =>
    rw [Writer.flushLoop]
    split
    · -- a flush shortens a pending block that is longer than the (positive) threshold
      rw [← flushBlock_threshold C w]
      exact ih _ (by rwa [flushBlock_threshold]) (by rw [flushBlock_block, List.length_drop]; omega)
    · exact Nat.le_of_not_gt ‹_›

theorem append_threshold (C : Compressor) (w : Writer) (item : Bytes) :
    (w.append C item).threshold = w.threshold :=
  flushLoop_threshold C _ _

theorem append_block_le (C : Compressor) (w : Writer) (item : Bytes) (h0 : 0 < w.threshold) :
    (w.append C item).block.length ≤ (w.append C item).threshold := by
  rw [append_threshold]
  exact flushLoop_block_le C _ _ h0 (Nat.lt_succ_self _)

theorem append_small (C : Compressor) (w : Writer) (item : Bytes)
    (h : w.block.length + item.length ≤ w.threshold) :
    w.append C item = { w with block := w.block ++ item } :=
  flushLoop_noop C _ _ (by simpa using h)

/-! ### the byte budget -/

/-- `finish` costs at most one block header and the terminator. -/
theorem finish_length_le {C : Compressor} (hC : C.Sound) (w : Writer) :
    (w.finish C).length ≤ w.output.length + w.block.length + 4 := by
  rw [Writer.finish, List.length_append]
  -- output' + 1 ≤ output' + block' + 1 ≤ output + block + 3 + 1
  exact Nat.succ_le_succ (Nat.le_trans (Nat.le_add_right _ _) (flushBlock_size_le hC w))

/-- … and after one more flush, at most two block headers and the terminator. -/
theorem finish_flushBlock_le {C : Compressor} (hC : C.Sound) (w : Writer) :
    ((w.flushBlock C).finish C).length ≤ w.output.length + w.block.length + 7 :=
  Nat.le_trans (finish_length_le hC (w.flushBlock C))
    (Nat.add_le_add_right (flushBlock_size_le hC w) 4)

theorem flushLoop_once (C : Compressor) (fuel : Nat) (w : Writer)
    (hgt : w.threshold < w.block.length) (hle : w.block.length ≤ 2 * w.threshold) :
    Writer.flushLoop C (fuel + 1) w = w.flushBlock C := by
  rw [Writer.flushLoop, if_pos hgt]
  apply flushLoop_noop
  rw [flushBlock_block, flushBlock_threshold, List.length_drop]
  exact Nat.sub_le_of_le_add (Nat.two_mul _ ▸ hle)

theorem upperBoundAfter_bounds (w : Writer) (n : Nat) :
    w.output.length + w.block.length + n + 4 ≤ w.upperBoundAfter n ∧
    w.upperBoundAfter n ≤ w.output.length + w.block.length + n + 7 := by
  unfold Writer.upperBoundAfter
  split <;> simp +arith only [and_self]

/-- **The budget lemma.** If the pending block and the new item each fit one block, then after the
append the finished stream is at most `serialized_len_upperbound_after` computed before it. -/
theorem finish_append_le_upperBound {C : Compressor} (hC : C.Sound) (w : Writer) (item : Bytes)
    (hb : w.block.length ≤ w.threshold) (hi : item.length ≤ w.threshold) :
    ((w.append C item).finish C).length ≤ w.upperBoundAfter item.length := by
  unfold Writer.upperBoundAfter
  have hlen : (w.block ++ item).length = w.block.length + item.length := List.length_append
  by_cases hgt : w.block.length + item.length > w.threshold
  · -- more than one threshold, at most two (`hb`, `hi`): one flush
    rw [if_pos hgt, Writer.append, flushLoop_once C _ _ (hlen ▸ hgt)
      (hlen ▸ Nat.two_mul _ ▸ Nat.add_le_add hb hi)]
    have := finish_flushBlock_le hC { w with block := w.block ++ item }
    simp only [List.length_append] at this
    exact Nat.le_trans this (by simp +arith only)
  · rw [if_neg hgt, append_small C w item (Nat.le_of_not_gt hgt)]
    have := finish_length_le hC { w with block := w.block ++ item }
    simp only [List.length_append] at this
    exact Nat.le_trans this (by simp +arith only)

end Chitchat
