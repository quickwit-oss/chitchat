/-
Lemmas/ClusterWF.lean — `Id.lt` is a strict total order; well-formedness of the whole cluster state
(`WFCluster`: member map strictly sorted by id, every copy well formed) is kept by the operations on the
member map, by `apply_delta`, and by the heartbeat tick and reports.
-/
import ChitchatModel.Lemmas.CopyWF
import ChitchatModel.Lemmas.Message
namespace Chitchat
open ClusterState NodeState

/-! ### `Id.lt` (Rust's derived `Ord` on `ChitchatId`) is a strict total order

Derived `Ord` compares fields (and enum variants) lexicographically. -/

/-- variant (`V4` before `V6`), octets, port: what `Addr.lt` compares, in that order -/
def Addr.key : Addr → Bool × Bytes × Nat
  | .v4 o p => (false, o, p)
  | .v6 o p => (true, o, p)

theorem addrLt_strictTotal : StrictTotal Addr.lt := by
  have e : Addr.lt = fun a b =>
      lexLt (fun x y => !x && y) (lexLt bytesLt fun p q => decide (p < q)) a.key b.key :=
    funext fun a => funext fun b => by cases a <;> cases b <;> rfl
  rw [e]
  apply (boolLt_strictTotal.lex (bytesLt_strictTotal.lex natLt_strictTotal)).comap Addr.key
  intro a b h
  cases a <;> cases b <;> cases h <;> rfl

/-- `Id.lt` is: node id, then generation, then address. -/
theorem idLt_strictTotal : StrictTotal Id.lt := by
  apply (bytesLt_strictTotal.lex (natLt_strictTotal.lex addrLt_strictTotal)).comap
    (fun i : Id => (i.nodeId, i.gen, i.addr))
  intro a b
  cases a
  cases b
  simp

/-- Well-formed cluster state: member map strictly sorted by id (what `BTreeMap` guarantees), every
copy well formed. -/
structure WFCluster (cs : ClusterState) : Prop where
  sorted : SortedBy Id.lt cs.nodes
  copies : ∀ p ∈ cs.nodes, WFCopy p.2

theorem wfCluster_empty : WFCluster {} :=
  ⟨List.Pairwise.nil, fun _ hp => nomatch hp⟩

theorem wfCluster_setNode {cs : ClusterState} {s : NodeState} (h : WFCluster cs) (i : Id) (hs : WFCopy s) :
    WFCluster (cs.setNode i s) := by
  refine ⟨sortedBy_insert idLt_strictTotal i s h.sorted, ?_⟩
  intro p hp
  rcases AL.eq_or_mem_of_mem_insert hp with e | e
  · exact e ▸ hs
  · exact h.copies p e

theorem wfCluster_initIfAbsent {cs : ClusterState} (h : WFCluster cs) (i : Id) :
    WFCluster (cs.initIfAbsent i) := by
  unfold initIfAbsent
  split
  · exact h
  · have := wfCluster_setNode h i (wfCopy_empty 0 0)
    exact ⟨this.sorted, this.copies⟩

theorem wfCluster_removeNode {cs : ClusterState} (h : WFCluster cs) (i : Id) :
    WFCluster (cs.removeNode i) := by
  unfold removeNode
  split
  · exact h
  · exact ⟨List.Pairwise.filter _ h.sorted, fun p hp => h.copies p (List.mem_filter.1 hp).1⟩

theorem wfCluster_gcKeys {cs : ClusterState} (h : WFCluster cs) (now grace : Nat) :
    WFCluster (cs.gcKeys now grace) := by
  refine ⟨List.pairwise_map.2 h.sorted, fun p hp => ?_⟩
  obtain ⟨q, hq, rfl⟩ := List.mem_map.1 hp
  exact wfCopy_gcKeys (h.copies q hq) now grace

theorem wfCluster_nodeState {cs : ClusterState} {i : Id} {s : NodeState} (h : WFCluster cs)
    (hs : cs.nodeState i = some s) : WFCopy s :=
  h.copies (i, s) (AL.mem_of_lookup hs)

theorem wfCluster_applyDelta {now : Nat} {nds : List (Id × NodeDelta)} {cs : ClusterState} {r}
    (hwf : ∀ p ∈ nds, p.2.WF) (hcs : WFCluster cs) (h : ClusterState.applyDelta now cs nds = .ok r) :
    WFCluster r.1 :=
  applyDelta_invariant WFCluster
    (fun _ i _ _ _ _ _ hm hP hn ha _ =>
      wfCluster_setNode hP i (wfCopy_applyDelta (wfCluster_nodeState hP hn) (hwf _ hm).increasing ha))
    h hcs

namespace Node

theorem wf_updateSelfHeartbeat (n : Node) (h : WFCluster n.cs) : WFCluster n.updateSelfHeartbeat.cs := by
  have h1 := wfCluster_initIfAbsent h n.cfg.selfId
  apply wfCluster_setNode h1
  cases hs : (n.cs.initIfAbsent n.cfg.selfId).nodeState n.cfg.selfId with
  | none => exact wfCopy_heartbeat (wfCopy_empty 0 0) _
  | some s => exact wfCopy_heartbeat (wfCluster_nodeState h1 hs) _

theorem wf_reportBase (n : Node) (i : Id) (hb : Nat) (h : WFCluster n.cs) : WFCluster (n.reportBase i hb) := by
  rcases reportBase_cases n i hb with ⟨_, e⟩ | ⟨_, e⟩
  · rwa [e]
  · rw [e]
    exact wfCluster_initIfAbsent h _

theorem wf_reportHeartbeat (n : Node) (i : Id) (hb now : Nat) (h : WFCluster n.cs) :
    WFCluster (n.reportHeartbeat i hb now).cs := by
  rcases reportHeartbeat_cases n i hb now with e | ⟨s, _, hs, e⟩
  · rwa [e]
  · rw [e]
    have h1 := wf_reportBase n i hb h
    exact wfCluster_setNode h1 _ (wfCopy_trySetHeartbeat (wfCluster_nodeState h1 hs) hb)

theorem wf_reportHeartbeatsInDigest (n : Node) (d : Digest) (now : Nat) (h : WFCluster n.cs) :
    WFCluster (n.reportHeartbeatsInDigest d now).cs :=
  reportHeartbeatsInDigest_induct (P := fun m => WFCluster m.cs) n d now h
    (fun m hm p _ => wf_reportHeartbeat m p.1 p.2.heartbeat now hm)

end Node
end Chitchat
