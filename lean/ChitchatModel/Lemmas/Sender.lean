/-
Lemmas/Sender.lean — what the sender selects: `staleKvs` (the entries above a floor, by ascending version),
`senderNodeDelta` (a prefix of them), `staleNodes` (the members a digest is behind on) and `sortStale` (their
order in the reply).
-/
import ChitchatModel.Model.Cluster
import ChitchatModel.Lemmas.Order
namespace Chitchat
open NodeState ClusterState

theorem staleKvs_perm (s : NodeState) (f : Nat) :
    (s.staleKvs f).Perm (s.kvs.filter (fun p => decide (p.2.version > f))) :=
  sortBy_perm _ _

theorem mem_staleKvs {s : NodeState} {f : Nat} {p : Bytes × VV} :
    p ∈ s.staleKvs f ↔ p ∈ s.kvs ∧ f < p.2.version := by
  rw [(staleKvs_perm s f).mem_iff, List.mem_filter, decide_eq_true_eq]

theorem staleKvs_pairwise (s : NodeState) (f : Nat) :
    (s.staleKvs f).Pairwise (fun a b => a.2.version ≤ b.2.version) := by
  refine (pairwise_sortBy ?_ ?_ _).imp of_decide_eq_true
  · intro a b c hab hbc
    exact decide_eq_true (Nat.le_trans (of_decide_eq_true hab) (of_decide_eq_true hbc))
  · intro a b
    simp only [decide_eq_true_eq]
    exact Nat.le_total _ _

theorem staleKvs_keys_nodup (s : NodeState) (f : Nat) (hs : SortedKeys s.kvs) :
    ((s.staleKvs f).map (·.1)).Nodup :=
  ((staleKvs_perm s f).map _).nodup_iff.2 (hs.nodup.sublist (List.filter_sublist.map _))

theorem staleKvs_strict (s : NodeState) (f : Nat) (hs : SortedKeys s.kvs)
    (hd : ∀ p ∈ s.kvs, ∀ q ∈ s.kvs, p.2.version = q.2.version → p = q) :
    (s.staleKvs f).Pairwise (fun a b => a.2.version < b.2.version) := by
  have hk := staleKvs_keys_nodup s f hs
  rw [List.nodup_iff_pairwise_ne, List.pairwise_map] at hk
  apply List.Pairwise.imp_of_mem _ ((staleKvs_pairwise s f).and hk)
  intro a b ha hb ⟨h1, h2⟩
  exact Nat.lt_of_le_of_ne h1 fun heq => h2 (congrArg _ (hd a (mem_staleKvs.1 ha).1 b (mem_staleKvs.1 hb).1 heq))

theorem senderNodeDelta_max_cases (s : NodeState) (f n : Nat) (b : Bool) :
    (∃ kv, (senderNodeDelta s f n b).kvs.getLast? = some kv ∧
      (senderNodeDelta s f n b).maxVersion = kv.version) ∨
    ((senderNodeDelta s f n b).kvs = [] ∧
      (senderNodeDelta s f n b).maxVersion = if b = true ∧ s.staleKvs f = [] then s.maxVersion else 0) := by
  have e : (senderNodeDelta s f n b).maxVersion = match (senderNodeDelta s f n b).kvs.getLast? with
      | some kv => kv.version
      | none => if b = true ∧ s.staleKvs f = [] then s.maxVersion else 0 := rfl
  rw [e]
  cases hl : (senderNodeDelta s f n b).kvs.getLast? with
  | none => exact .inr ⟨List.getLast?_eq_none_iff.1 hl, rfl⟩
  | some kv => exact .inl ⟨kv, rfl, rfl⟩

/-- a sender-shaped node delta with a positive max version carries a key-value or the
`SetMaxVersion` op -/
theorem senderNodeDelta_carries (s : NodeState) (f n : Nat) (b : Bool)
    (h : 0 < (senderNodeDelta s f n b).maxVersion) :
    (senderNodeDelta s f n b).kvs ≠ [] ∨ (b = true ∧ s.staleKvs f = []) := by
  rcases senderNodeDelta_max_cases s f n b with ⟨y, hl, _⟩ | ⟨_, e⟩
  · exact .inl fun hnil => by rw [hnil] at hl; cases hl
  · rw [e] at h
    split at h
    · exact .inr ‹_›
    · omega

theorem senderNodeDelta_kvsLeMax (s : NodeState) (f n : Nat) (b : Bool) :
    ∀ kv ∈ (senderNodeDelta s f n b).kvs, kv.version ≤ (senderNodeDelta s f n b).maxVersion := by
  intro kv hkv
  rcases senderNodeDelta_max_cases s f n b with ⟨y, hl, e⟩ | ⟨hnil, _⟩
  · rw [e]
    refine le_getLast_of_pairwise (·.version) ?_ hkv hl
    exact List.pairwise_map.2 ((staleKvs_pairwise s f).sublist (List.take_sublist _ _))
  · rw [hnil] at hkv; cases hkv

theorem senderNodeDelta_kvs_gt (s : NodeState) (f n : Nat) (b : Bool) :
    ∀ kv ∈ (senderNodeDelta s f n b).kvs, f < kv.version := by
  intro kv hkv
  obtain ⟨p, hp, rfl⟩ := List.mem_map.1 hkv
  exact (mem_staleKvs.1 (List.mem_of_mem_take hp)).2

theorem senderFrom_le (s : NodeState) (dGc dMax : Nat) : senderFrom s dGc dMax ≤ dMax := by
  unfold senderFrom
  split
  · exact Nat.zero_le _
  · exact Nat.le_refl _

/-! ### `staleNodes` -/

/-- what the peer's digest says about member `i` (absent = nothing known) -/
def digestEntry (i : Id) (digest : Digest) : Nat × Nat :=
  match AL.lookup i digest with
  | some d => (d.lastGc, d.maxVersion)
  | none => (0, 0)

theorem lookup_computeDigest (cs : ClusterState) (sched : List Id) (i : Id) :
    AL.lookup i (cs.computeDigest sched) =
      if sched.contains i then none else (cs.nodeState i).map nodeDigest := by
  unfold computeDigest nodeState
  rw [AL.lookup_mapVal (fun _ s => nodeDigest s), AL.lookup_filter_key (fun k => !sched.contains k)]
  cases sched.contains i <;> rfl

theorem staleNodeOf_eq_some {i : Id} {s : NodeState} {g m : Nat} {sn : StaleNode}
    (h : staleNodeOf i s g m = some sn) :
    sn.id = i ∧ sn.state = s ∧ sn.fromExcl = senderFrom s g m ∧ m < s.maxVersion ∧
      senderFrom s g m < s.maxVersion := by
  revert h
  fun_cases staleNodeOf i s g m <;> intro h <;> cases h
  exact ⟨rfl, rfl, rfl, Nat.lt_of_not_le ‹_›, Nat.lt_of_not_le ‹_›⟩

theorem staleNodes_eq (cs : ClusterState) (digest : Digest) (sched : List Id) :
    staleNodes cs digest sched = cs.nodes.filterMap (fun p =>
      if sched.contains p.1 then none
      else staleNodeOf p.1 p.2 (digestEntry p.1 digest).1 (digestEntry p.1 digest).2) := by
  unfold staleNodes digestEntry
  congr 1
  funext p
  cases AL.lookup p.1 digest <;> rfl

theorem mem_staleNodes {cs : ClusterState} {digest : Digest} {sched : List Id} {sn : StaleNode}
    (h : sn ∈ staleNodes cs digest sched) :
    (sn.id, sn.state) ∈ cs.nodes ∧ sched.contains sn.id = false ∧
    sn.fromExcl = senderFrom sn.state (digestEntry sn.id digest).1 (digestEntry sn.id digest).2 ∧
    (digestEntry sn.id digest).2 < sn.state.maxVersion ∧ sn.fromExcl < sn.state.maxVersion := by
  rw [staleNodes_eq] at h
  obtain ⟨p, hp, hsn⟩ := List.mem_filterMap.1 h
  by_cases hsched : sched.contains p.1 = true
  · rw [if_pos hsched] at hsn
    cases hsn
  · rw [if_neg hsched] at hsn
    obtain ⟨h1, h2, h3, h4, h5⟩ := staleNodeOf_eq_some hsn
    rw [h1, h2, h3]
    exact ⟨hp, eq_false_of_ne_true hsched, rfl, h4, h5⟩

theorem staleNodes_ids_sublist (cs : ClusterState) (digest : Digest) (sched : List Id) :
    ((staleNodes cs digest sched).map (·.id)).Sublist (cs.nodes.map (·.1)) := by
  rw [staleNodes_eq]
  induction cs.nodes with
  | nil => exact .slnil
  | cons p t ih =>
    rw [List.filterMap_cons]
    split
    · exact ih.cons _
    · rename_i sn hsn
      split at hsn
      · cases hsn
      · rw [List.map_cons, List.map_cons, ← (staleNodeOf_eq_some hsn).1]
        exact ih.cons_cons _

/-! ### `sortStale` -/

theorem sortStale_perm (order : List Id) (l : List StaleNode) : (sortStale order l).Perm l :=
  sortBy_perm _ _

theorem mem_sortStale {order : List Id} {l : List StaleNode} {x : StaleNode} : x ∈ sortStale order l ↔ x ∈ l :=
  mem_sortBy

end Chitchat
