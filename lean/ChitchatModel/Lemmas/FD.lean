/-
Lemmas/FD.lean — the failure detector: the sampling window (stored intervals stay within `maxInterval`),
the arithmetic of the phi test, the live / dead bookkeeping of `update_node_liveness`; then the passes of
`update_nodes_liveness`: loop rules for the liveness pass and the node GC, and what the watch step leaves.
-/
import ChitchatModel.Model.Chitchat
import ChitchatModel.Lemmas.AL
namespace Chitchat

def Window.Bounded (cfg : FDConfig) (w : Window) : Prop := ∀ x ∈ w.intervals, x ≤ cfg.maxInterval

theorem pushBounded_forall {P : Nat → Prop} {cap : Nat} {l : List Nat} {x : Nat} (hl : ∀ y ∈ l, P y)
    (hx : P x) : ∀ y ∈ pushBounded cap l x, P y := by
  unfold pushBounded
  split
  · exact forall_mem_concat (fun y hy => hl y (List.mem_of_mem_drop hy)) hx
  · exact forall_mem_concat hl hx

theorem Window.bounded_report (cfg : FDConfig) (w : Window) (now : Nat) (h : w.Bounded cfg) :
    (w.report cfg now).Bounded cfg := by
  unfold Window.report
  split
  · split
    next hle => exact pushBounded_forall h hle
    next => exact h
  · exact h

theorem Window.bounded_reset (cfg : FDConfig) (w : Window) : (w.reset).Bounded cfg :=
  fun _ hx => nomatch hx

theorem Window.bounded_empty (cfg : FDConfig) : ({} : Window).Bounded cfg :=
  fun _ hx => nomatch hx

theorem Window.report_first (cfg : FDConfig) (now : Nat) :
    (({} : Window).report cfg now).intervals = [] := rfl

/-! ### the phi test

`Window.alive` compares the time `d` since the last report with the smoothed mean interval
`X / K = (sum + 5·initial) / (len + 5)`: alive iff `d · K · den ≤ num · X`. A bound `m` or `M` on the mean
decides it. -/

theorem Window.alive_iff (cfg : FDConfig) (w : Window) (now : Nat) :
    w.alive cfg now = true ↔ w.intervals ≠ [] ∧ ∃ l, w.last = some l ∧
      (now - l) * (w.intervals.length + 5) * cfg.thetaDen ≤
        cfg.thetaNum * (w.intervals.sum + 5 * cfg.initialInterval) := by
  unfold Window.alive
  cases w.intervals with
  | nil => exact ⟨Bool.noConfusion, fun h => absurd rfl h.1⟩
  | cons a t =>
    cases w.last with
    | none =>
      constructor
      · exact Bool.noConfusion
      · rintro ⟨_, l, e, _⟩
        cases e
    | some l =>
      constructor
      · exact fun h => ⟨List.cons_ne_nil _ _, l, rfl, of_decide_eq_true h⟩
      · rintro ⟨_, _, ⟨⟩, h⟩
        exact decide_eq_true h

theorem phi_le_of_mean_ge {K X m d num den : Nat} (hm : K * m ≤ X) (h : d * den ≤ num * m) :
    d * K * den ≤ num * X :=
  calc d * K * den = K * (d * den) := by rw [Nat.mul_comm d K, Nat.mul_assoc]
    _ ≤ K * (num * m) := Nat.mul_le_mul_left _ h
    _ = num * (K * m) := Nat.mul_left_comm _ _ _
    _ ≤ num * X := Nat.mul_le_mul_left _ hm

theorem phi_gt_of_mean_le {K X M d num den : Nat} (hK : 0 < K) (hM : X ≤ K * M) (h : num * M < d * den) :
    num * X < d * K * den :=
  calc num * X ≤ num * (K * M) := Nat.mul_le_mul_left _ hM
    _ = K * (num * M) := Nat.mul_left_comm _ _ _
    _ < K * (d * den) := Nat.mul_lt_mul_of_pos_left h hK
    _ = d * K * den := by rw [Nat.mul_comm d K, Nat.mul_assoc]

/-! ### live / dead bookkeeping -/

theorem mem_insertId {i j : Id} {l : List Id} : j ∈ FD.insertId i l ↔ j = i ∨ j ∈ l := by
  induction l with
  | nil => exact List.mem_cons
  | cons a t ih => grind [FD.insertId]

def FD.Disjoint (fd : FD) : Prop := ∀ i, i ∈ fd.live → AL.lookup i fd.dead = none

/-- the member is in exactly one of the two sets -/
def FD.Settled (fd : FD) (i : Id) : Prop :=
  (i ∈ fd.live ∧ AL.lookup i fd.dead = none) ∨ (i ∉ fd.live ∧ (AL.lookup i fd.dead).isSome)

theorem FD.disjoint_empty : ({} : FD).Disjoint := fun _ h => nomatch h

/-! ### `update_node_liveness` -/

theorem mem_live_updateNodeLiveness (cfg : FDConfig) (fd : FD) (i j : Id) (now : Nat) :
    j ∈ (fd.updateNodeLiveness cfg i now).live ↔
      if j = i then fd.isAlive cfg i now = true else j ∈ fd.live := by
  unfold FD.updateNodeLiveness
  by_cases hji : j = i <;> by_cases ha : fd.isAlive cfg i now = true <;>
    simp [hji, ha, mem_insertId]

/-- a member found not alive keeps the time of death it has, or dies now -/
theorem lookup_dead_updateNodeLiveness (cfg : FDConfig) (fd : FD) (i j : Id) (now : Nat) :
    AL.lookup j (fd.updateNodeLiveness cfg i now).dead =
      if j = i then
        (if fd.isAlive cfg i now = true then none else some ((AL.lookup i fd.dead).getD now))
      else AL.lookup j fd.dead := by
  unfold FD.updateNodeLiveness
  by_cases ha : fd.isAlive cfg i now = true
  · rw [if_pos ha, if_pos ha]
    exact AL.lookup_erase _ _ _
  · rw [if_neg ha, if_neg ha]
    dsimp only
    cases hd : AL.lookup i fd.dead with
    | some t => grind
    | none => exact AL.lookup_insert _ _ _ _ _

theorem updateNodeLiveness_target (cfg : FDConfig) (fd : FD) (i : Id) (now : Nat) :
    (fd.updateNodeLiveness cfg i now).Settled i := by
  unfold FD.Settled
  rw [mem_live_updateNodeLiveness, lookup_dead_updateNodeLiveness, if_pos rfl, if_pos rfl]
  by_cases ha : fd.isAlive cfg i now = true <;> simp [ha]

theorem updateNodeLiveness_other (cfg : FDConfig) (fd : FD) (i j : Id) (now : Nat) (h : j ≠ i) :
    (j ∈ (fd.updateNodeLiveness cfg i now).live ↔ j ∈ fd.live) ∧
    AL.lookup j (fd.updateNodeLiveness cfg i now).dead = AL.lookup j fd.dead := by
  rw [mem_live_updateNodeLiveness, lookup_dead_updateNodeLiveness, if_neg h, if_neg h]
  exact ⟨Iff.rfl, rfl⟩

theorem updateNodeLiveness_settled (cfg : FDConfig) (fd : FD) (i j : Id) (now : Nat) (h : fd.Settled j) :
    (fd.updateNodeLiveness cfg i now).Settled j := by
  by_cases hji : j = i
  · subst hji
    exact updateNodeLiveness_target cfg fd j now
  · unfold FD.Settled
    rwa [(updateNodeLiveness_other cfg fd i j now hji).1, (updateNodeLiveness_other cfg fd i j now hji).2]

theorem updateNodeLiveness_disjoint (cfg : FDConfig) (fd : FD) (i : Id) (now : Nat) (h : fd.Disjoint) :
    (fd.updateNodeLiveness cfg i now).Disjoint := by
  intro j hj
  by_cases hji : j = i
  · subst hji
    rcases updateNodeLiveness_target cfg fd j now with ⟨_, h2⟩ | ⟨h1, _⟩
    · exact h2
    · exact absurd hj h1
  · obtain ⟨h1, h2⟩ := updateNodeLiveness_other cfg fd i j now hji
    exact h2.trans (h j (h1.1 hj))

/-! ### the other operations -/

theorem reportHeartbeat_live_dead (cfg : FDConfig) (fd : FD) (i : Id) (now : Nat) :
    (fd.reportHeartbeat cfg i now).live = fd.live ∧ (fd.reportHeartbeat cfg i now).dead = fd.dead := ⟨rfl, rfl⟩

theorem createWindow_live_dead (fd : FD) (i : Id) :
    (fd.createWindow i).live = fd.live ∧ (fd.createWindow i).dead = fd.dead := by
  unfold FD.createWindow; split <;> exact ⟨rfl, rfl⟩

theorem window_createWindow (fd : FD) (i j : Id) :
    (fd.createWindow i).window j = if j = i then some ((fd.window i).getD {}) else fd.window j := by
  unfold FD.createWindow
  cases h : fd.window i with
  | some w => grind
  | none => exact AL.lookup_insert _ _ _ _ _

theorem garbageCollect_disjoint (cfg : FDConfig) (fd : FD) (now : Nat) (h : fd.Disjoint) :
    (fd.garbageCollect cfg now).2.Disjoint := by
  intro i hi
  show AL.lookup i (fd.dead.filter _) = none
  rw [AL.lookup_filter_key (fun k => !(List.contains _ k)), h i hi, ite_self]

/-! ### the passes of `update_nodes_liveness` -/
namespace Node

theorem evalLiveness_induct {P : FD → Prop} (n : Node) (now : Nat) (h0 : P n.fd)
    (step : ∀ fd, P fd → ∀ i, i ≠ n.cfg.selfId → P (fd.updateNodeLiveness n.cfg.fd i now)) :
    P (n.evalLiveness now).fd :=
  List.foldlRecOn _ _ h0 (fun fd h i _ => by
    split
    · exact h
    · exact step fd h i ‹_›)

/-- by its own update; the later updates keep it so -/
theorem evalLiveness_settled (n : Node) (now : Nat) {i : Id} (hi : i ∈ n.cs.nodes.map (·.1))
    (hne : i ≠ n.cfg.selfId) : (n.evalLiveness now).fd.Settled i := by
  unfold evalLiveness
  obtain ⟨before, after, e⟩ := List.append_of_mem hi
  rw [e, List.foldl_append, List.foldl_cons, if_neg hne]
  refine List.foldlRecOn (motive := fun fd : FD => fd.Settled i) after _ (updateNodeLiveness_target _ _ i now)
    (fun fd h j _ => ?_)
  split
  · exact h
  · exact updateNodeLiveness_settled _ fd j i now h

theorem gcDeadNodes_induct {P : ClusterState → Prop} (n : Node) (now : Nat) (h0 : P n.cs)
    (step : ∀ cs, P cs → ∀ i, i ≠ n.cfg.selfId → P (cs.removeNode i)) :
    P (n.gcDeadNodes now).cs :=
  List.foldlRecOn _ _ h0 (fun cs h i _ => by
    split
    · exact h
    · exact step cs h i ‹_›)

/-- Whether or not the watch step publishes. -/
theorem publishStep_spec (n : Node) :
    n.publishStep.previousLive = n.currentLive ∧
    n.publishStep.watch.map (·.1) = n.filteredLive.map (·.1) ∧
    n.publishStep.cs = n.cs ∧ n.publishStep.cfg = n.cfg ∧ n.publishStep.fd = n.fd := by
  unfold publishStep
  by_cases h : n.previousLive ≠ n.currentLive ∨ n.filteredLive.map (·.1) ≠ n.watch.map (·.1)
  · rw [if_pos h]
    exact ⟨rfl, rfl, rfl, rfl, rfl⟩
  · rw [if_neg h]
    exact ⟨Decidable.of_not_not (not_or.1 h).1, (Decidable.of_not_not (not_or.1 h).2).symm, rfl, rfl, rfl⟩

end Node

end Chitchat
