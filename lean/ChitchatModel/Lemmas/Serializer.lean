/-
Lemmas/Serializer.lean — the `DeltaSerializer` and the two loops of
`compute_partial_delta_respecting_mtu`: `tryAddOp` case by case, and what the loops return as a
*trace*: the serializer they were given after it admitted, one by one, the ops of some members, each
cut after some of its stale key-values (`Admits`, `addKvs_admits`, `addNodes_admits`). What holds of a
reply whatever the budget did (shape, well-formedness) is a fact about traces; so is its size (`DSInv`).
-/
import ChitchatModel.Lemmas.Writer
import ChitchatModel.Lemmas.Builder
import ChitchatModel.Lemmas.Sender
namespace Chitchat
open ClusterState NodeState

/-! ### `tryAddOp`, case by case -/

theorem tryAddOp_eq_some {C : Compressor} {ds ds' : DeltaSerializer} {op : DeltaOp} :
    ds.tryAddOp C op = .ok (some ds') ↔
      ds.writer.upperBoundAfter (opLen op) ≤ ds.mtu ∧ opLen op ≤ 65535 ∧
      ∃ b, ds.builder.applyOp op = some b ∧
        ds' = { ds with writer := ds.writer.append C (encOp op), builder := b } := by
  constructor
  · fun_cases ds.tryAddOp C op <;> intro h <;> cases h
    exact ⟨Nat.le_of_not_gt ‹_›, Nat.le_of_not_gt ‹_›, _, ‹_›, rfl⟩
  · rintro ⟨h1, h2, b, hb, rfl⟩
    rw [DeltaSerializer.tryAddOp, if_neg (Nat.not_lt_of_le h1), if_neg (Nat.not_lt_of_le h2), hb]

theorem tryAddOp_eq_none {C : Compressor} {ds : DeltaSerializer} {op : DeltaOp} :
    ds.tryAddOp C op = .ok none ↔ ds.mtu < ds.writer.upperBoundAfter (opLen op) := by
  constructor
  · fun_cases ds.tryAddOp C op <;> intro h <;> cases h
    assumption
  · intro h
    rw [DeltaSerializer.tryAddOp, if_pos h]

/-- With a budget of at most 65 539 bytes the length check cannot fire: an op the builder accepts is
refused or admitted. -/
theorem tryAddOp_ok {C : Compressor} {ds : DeltaSerializer} {op : DeltaOp} {b : DeltaBuilder}
    (hm : ds.mtu ≤ 65539) (hb : ds.builder.applyOp op = some b) :
    ds.tryAddOp C op = .ok none ∨
    ∃ ds', ds.tryAddOp C op = .ok (some ds') ∧ ds'.mtu = ds.mtu ∧ ds'.builder = b := by
  by_cases h2 : ds.writer.upperBoundAfter (opLen op) ≤ ds.mtu
  · -- opLen op + 4 ≤ the upper bound ≤ mtu ≤ 65535 + 4
    have := (upperBoundAfter_bounds ds.writer (opLen op)).1
    exact Or.inr ⟨_, tryAddOp_eq_some.2 ⟨h2, by omega, b, hb, rfl⟩, rfl, rfl⟩
  · exact Or.inl (tryAddOp_eq_none.2 (Nat.lt_of_not_le h2))

/-- An op the builder accepts is admitted when what the writer holds, the op, two block headers and the
terminator are within the budget. -/
theorem tryAddOp_of_fits {C : Compressor} {ds : DeltaSerializer} {op : DeltaOp} {b : DeltaBuilder}
    (hm : ds.mtu ≤ 65539) (hb : ds.builder.applyOp op = some b)
    (hfit : ds.writer.output.length + ds.writer.block.length + opLen op + 7 ≤ ds.mtu) :
    ds.tryAddOp C op = .ok (some { ds with writer := ds.writer.append C (encOp op), builder := b }) := by
  rcases tryAddOp_ok (C := C) hm hb with h | ⟨ds', h, -, -⟩
  · exact absurd (tryAddOp_eq_none.1 h) (Nat.not_lt_of_le (Nat.le_trans (upperBoundAfter_bounds _ _).2 hfit))
  · obtain ⟨_, _, b', hb', rfl⟩ := tryAddOp_eq_some.1 h
    rw [h, Option.some.inj (hb.symm.trans hb')]

/-! ### Traces -/

/-- `ds'` is `ds` after it admitted the ops `ops`, one after the other. -/
inductive Admits (C : Compressor) : DeltaSerializer → List DeltaOp → DeltaSerializer → Prop
  | nil (ds : DeltaSerializer) : Admits C ds [] ds
  | cons {ds ds1 ds' : DeltaSerializer} {op : DeltaOp} {ops : List DeltaOp} :
      ds.tryAddOp C op = .ok (some ds1) → Admits C ds1 ops ds' → Admits C ds (op :: ops) ds'

theorem Admits.append {C : Compressor} {ds ds1 ds2 : DeltaSerializer} {l1 l2 : List DeltaOp}
    (h1 : Admits C ds l1 ds1) (h2 : Admits C ds1 l2 ds2) : Admits C ds (l1 ++ l2) ds2 := by
  induction h1 with
  | nil => exact h2
  | cons hs _ ih => exact .cons hs (ih h2)

theorem Admits.builder {C : Compressor} {ds ds' : DeltaSerializer} {ops : List DeltaOp}
    (h : Admits C ds ops ds') : ds.builder.applyOps ops = some ds'.builder := by
  induction h with
  | nil => rfl
  | cons hs _ ih =>
    obtain ⟨_, _, b, hb, rfl⟩ := tryAddOp_eq_some.1 hs
    rw [DeltaBuilder.applyOps_cons, hb]
    exact ih

theorem addKvs_admits {C : Compressor} {kvs : List (Bytes × VV)} {ds ds' : DeltaSerializer} {hit : Bool}
    (h : addKvs C ds kvs = .ok (ds', hit)) : ∃ n, Admits C ds (((kvs.take n).map toKVM).map .kv) ds' := by
  fun_induction addKvs C ds kvs with
  | case2 => cases h
  | case1 | case3 =>
    cases h
    exact ⟨0, .nil _⟩
  | case4 ds p rest ds1 ht ih =>
    obtain ⟨n, hn⟩ := ih h
    exact ⟨n + 1, .cons ht hn⟩

/-- The ops of stale member `sn` cut after its first `n` stale key-values; the `SetMaxVersion` op is
only ever offered for a member without stale key-values. The receiver decodes them to
`senderNodeDelta sn.state sn.fromExcl n setMax` (`applyOps_memberOps`). -/
def memberOps (sn : StaleNode) (n : Nat) (setMax : Bool) : List DeltaOp :=
  .node sn.id sn.state.lastGc sn.fromExcl :: ((((sn.state.staleKvs sn.fromExcl).take n).map toKVM).map .kv ++
    if setMax = true ∧ sn.state.staleKvs sn.fromExcl = [] then [.setMax sn.state.maxVersion] else [])

/-- What the member loop admitted: for each member, where it was cut. -/
abbrev Cuts := List (StaleNode × Nat × Bool)

def Cuts.ops (tr : Cuts) : List DeltaOp := tr.flatMap fun t => memberOps t.1 t.2.1 t.2.2

/-- One more member in front of a trace: its header, `n` of its key-values, its `SetMaxVersion` op
iff `b` (and it has no stale key-value). -/
theorem Cuts.admits_cons {C : Compressor} {sn : StaleNode} {rest : List StaleNode}
    {ds ds1 ds2 ds3 ds' : DeltaSerializer} (n : Nat) (b : Bool)
    (h1 : ds.tryAddOp C (.node sn.id sn.state.lastGc sn.fromExcl) = .ok (some ds1))
    (h2 : Admits C ds1 ((((sn.state.staleKvs sn.fromExcl).take n).map toKVM).map .kv) ds2)
    (h3 : Admits C ds2 (if b = true ∧ sn.state.staleKvs sn.fromExcl = [] then
      [.setMax sn.state.maxVersion] else []) ds3)
    (h4 : ∃ tr : Cuts, (∀ t ∈ tr, t.1 ∈ rest) ∧ Admits C ds3 tr.ops ds') :
    ∃ tr : Cuts, (∀ t ∈ tr, t.1 ∈ sn :: rest) ∧ Admits C ds tr.ops ds' := by
  obtain ⟨tr, hsub, htr⟩ := h4
  exact ⟨(sn, n, b) :: tr,
    List.forall_mem_cons.2 ⟨List.mem_cons_self, fun t ht => List.mem_cons_of_mem _ (hsub t ht)⟩,
    .cons h1 ((h2.append h3).append htr)⟩

theorem addNodes_admits {C : Compressor} {sns : List StaleNode} {ds ds' : DeltaSerializer}
    (h : addNodes C ds sns = .ok ds') : ∃ tr : Cuts, (∀ t ∈ tr, t.1 ∈ sns) ∧ Admits C ds tr.ops ds' := by
  fun_induction addNodes C ds sns with
  | case2 | case4 | case6 => cases h
  | case1 ds | case3 ds =>
    cases h
    exact ⟨[], fun _ ht => absurd ht List.not_mem_nil, .nil _⟩
  | case5 ds sn rest ds1 ht kvs ds2 hk =>
    cases h
    obtain ⟨n, hn⟩ := addKvs_admits hk
    exact Cuts.admits_cons n false ht hn (by simpa using .nil _)
      ⟨[], fun _ ht => absurd ht List.not_mem_nil, .nil _⟩
  | case7 ds sn rest ds1 ht kvs ds2 hk _ _ ih | case9 ds sn rest ds1 ht kvs ds2 hk _ ih =>
    obtain ⟨n, hn⟩ := addKvs_admits hk
    exact Cuts.admits_cons n false ht hn (by simpa using .nil _) (ih h)
  | case8 ds sn rest ds1 ht kvs ds2 hk hempty ds3 ht3 ih =>
    obtain ⟨n, hn⟩ := addKvs_admits hk
    have h3 : Admits C ds2 (if true = true ∧ sn.state.staleKvs sn.fromExcl = [] then
        [.setMax sn.state.maxVersion] else []) ds3 := by
      rw [if_pos ⟨rfl, hempty⟩]
      exact .cons ht3 (.nil _)
    exact Cuts.admits_cons n true ht hn h3 (ih h)

/-! ### The byte budget along a trace -/

structure DSInv (C : Compressor) (ds : DeltaSerializer) : Prop where
  len : (ds.writer.finish C).length ≤ ds.mtu
  blk : ds.writer.block.length ≤ ds.writer.threshold
  thr0 : 0 < ds.writer.threshold

theorem DSInv.init (C : Compressor) {mtu : Nat} (h : 100 ≤ mtu) :
    DSInv C { mtu := mtu, writer := { threshold := min 16384 mtu } } := by
  refine ⟨?_, Nat.zero_le _, Nat.lt_min.2 ⟨by decide, Nat.lt_of_lt_of_le (by decide) h⟩⟩
  show 1 ≤ mtu -- the empty writer finishes to `[0]`
  exact Nat.le_trans (by decide) h

/-- The fields spelled out, so that no projection stands between the unifier and the writer. -/
theorem DSInv.of_writer {C : Compressor} {mtu : Nat} {b : DeltaBuilder} {w : Writer}
    (h1 : (w.finish C).length ≤ mtu) (h2 : w.block.length ≤ w.threshold) (h3 : 0 < w.threshold) :
    DSInv C { mtu := mtu, builder := b, writer := w } :=
  ⟨h1, h2, h3⟩

/-- Admitting ops that each fit one block keeps the announced length within the budget. -/
theorem Admits.dsInv {C : Compressor} (hC : C.Sound) {ds ds' : DeltaSerializer} {ops : List DeltaOp}
    (h : Admits C ds ops ds') (thr : Nat) (hops : ∀ op ∈ ops, WFOp op ∧ opLen op ≤ thr) :
    DSInv C ds → ds.writer.threshold = thr → DSInv C ds' ∧ ds'.mtu = ds.mtu := by
  induction h with
  | nil => exact fun h _ => ⟨h, rfl⟩
  | @cons ds ds1 _ op _ hs _ ih =>
    intro h hthr
    obtain ⟨hfit, _, b, _, rfl⟩ := tryAddOp_eq_some.1 hs
    obtain ⟨hwf, hsmall⟩ := hops op List.mem_cons_self
    have hbud := finish_append_le_upperBound hC ds.writer (encOp op) h.blk
      (by rw [encOp_length hwf, hthr]; exact hsmall)
    rw [encOp_length hwf] at hbud
    have hthr1 := append_threshold C ds.writer (encOp op)
    exact ih (fun o ho => hops o (List.mem_cons_of_mem _ ho))
      (.of_writer (Nat.le_trans hbud hfit) (append_block_le C _ _ h.thr0)
        (Nat.lt_of_lt_of_eq h.thr0 hthr1.symm))
      (hthr1.trans hthr)

/-- What the byte budget needs from a member copy: every op it can contribute is well formed and
fits one block of `thr` bytes. -/
structure SmallCopy (thr : Nat) (i : Id) (s : NodeState) : Prop where
  id : WFId i
  hdr : 1 + idLen i + 16 ≤ thr
  gc : s.lastGc < two64
  mx : s.maxVersion < two64
  kvs : ∀ p ∈ s.kvs, WFStr p.1 ∧ WFStr p.2.value ∧ p.2.version < two64 ∧
          1 + (2 + p.1.length) + (2 + p.2.value.length) + 8 + 1 ≤ thr

theorem SmallCopy.memberOps {thr : Nat} {sn : StaleNode} (h : SmallCopy thr sn.id sn.state)
    (hf : sn.fromExcl < two64) (n : Nat) (b : Bool) :
    ∀ op ∈ memberOps sn n b, WFOp op ∧ opLen op ≤ thr := by
  intro op hop
  simp only [Chitchat.memberOps, List.mem_cons, List.mem_append, List.mem_map] at hop
  rcases hop with rfl | ⟨_, ⟨p, hp, rfl⟩, rfl⟩ | hop
  · exact ⟨.node _ _ _ h.id h.gc hf, h.hdr⟩
  · obtain ⟨h1, h2, h3, h4⟩ := h.kvs p (mem_staleKvs.1 (List.mem_of_mem_take hp)).1
    exact ⟨.kv _ ⟨h1, h2, h3⟩, h4⟩
  · split at hop
    · rw [List.mem_singleton.1 hop]
      -- `opLen (.setMax _)` is 9 ≤ 16 ≤ 1 + idLen sn.id + 16 ≤ thr
      exact ⟨.setMax _ h.mx,
        Nat.le_trans (Nat.le_trans (by decide : 9 ≤ 16) (Nat.le_add_left 16 _)) h.hdr⟩
    · cases hop

end Chitchat
