/-
Lemmas/Builder.lean — `DeltaBuilder`, op by op (`applyOp_*`, `applyOps_*`), and its invariant: every
delta it produces (i.e. every decoded delta and every delta built by `DeltaSerializer`) is well formed.
Conversely, fed the ops of a delta of distinct members with `Emittable` node deltas it gives back
exactly those node deltas (`applyOps_nodeDelta`, `applyOps_delta_ops`).
-/
import ChitchatModel.Model.Wire
import ChitchatModel.Lemmas.AL
import ChitchatModel.Lemmas.NodeState
namespace Chitchat

/-- All node deltas in progress. -/
def DeltaBuilder.all (b : DeltaBuilder) : List (Id × NodeDelta) :=
  b.done ++ (match b.current with | some c => [c] | none => [])

structure DeltaBuilder.Inv (b : DeltaBuilder) : Prop where
  wf : ∀ p ∈ b.all, p.2.WF
  nodup : (b.all.map (·.1)).Nodup
  known : ∀ p ∈ b.all, p.1 ∈ b.existing

namespace DeltaBuilder

theorem all_some (e : List Id) (d : List (Id × NodeDelta)) (c : Id × NodeDelta) :
    all ⟨e, d, some c⟩ = d ++ [c] := rfl

theorem mem_all_of_current {b : DeltaBuilder} {c : Id × NodeDelta} (h : b.current = some c) :
    c ∈ b.all := by
  rw [all, h]
  exact List.mem_append_right _ List.mem_cons_self

theorem inv_empty : ({} : DeltaBuilder).Inv := by
  constructor <;> simp [all]

theorem flush_eq (b : DeltaBuilder) : b.flush = ⟨b.existing, b.all, none⟩ := by
  obtain ⟨e, d, c⟩ := b
  cases c <;> simp [flush, all]

theorem finish_nodeDeltas (b : DeltaBuilder) (len : Nat) : (b.finish len).nodeDeltas = b.all := by
  simp [finish, flush_eq]

/-! ### `applyOp`, case by case -/

theorem applyOp_node (b : DeltaBuilder) (i : Id) (g f : Nat) :
    b.applyOp (.node i g f) =
      if i ∈ b.existing then none else some ⟨i :: b.existing, b.all, some (i, ⟨f, g, [], 0⟩)⟩ := by
  simp [applyOp, flush_eq]

theorem applyOp_kv {b : DeltaBuilder} {i : Id} {nd : NodeDelta} (h : b.current = some (i, nd)) (m : KVM) :
    b.applyOp (.kv m) =
      if nd.maxVersion < m.version then
        some { b with current := some (i, { nd with maxVersion := m.version, kvs := nd.kvs ++ [m] }) }
      else none := by
  simp [applyOp, h]

theorem applyOp_setMax {b : DeltaBuilder} {i : Id} {nd : NodeDelta} (h : b.current = some (i, nd)) (v : Nat) :
    b.applyOp (.setMax v) =
      if nd.maxVersion ≤ v then some { b with current := some (i, { nd with maxVersion := v }) }
      else none := by
  simp [applyOp, h]

theorem applyOps_cons (b : DeltaBuilder) (op : DeltaOp) (ops : List DeltaOp) :
    b.applyOps (op :: ops) = (b.applyOp op).bind (·.applyOps ops) := by
  rw [applyOps]
  cases b.applyOp op <;> rfl

theorem applyOps_append (b : DeltaBuilder) (l1 l2 : List DeltaOp) :
    b.applyOps (l1 ++ l2) = (b.applyOps l1).bind (·.applyOps l2) := by
  induction l1 generalizing b with
  | nil => rfl
  | cons o t ih =>
    rw [List.cons_append, applyOps_cons, applyOps_cons]
    cases b.applyOp o with
    | none => rfl
    | some b1 => exact ih b1

/-- Accepted iff the versions increase from the max version so far; the last one is the new max version. -/
theorem applyOps_kvs (ms : List KVM) {b : DeltaBuilder} {i : Id} {nd : NodeDelta}
    (hcur : b.current = some (i, nd)) :
    b.applyOps (ms.map .kv) =
      if (nd.maxVersion :: ms.map (·.version)).Pairwise (· < ·) then
        some { b with current := some (i, { nd with
          kvs := nd.kvs ++ ms,
          maxVersion := match ms.getLast? with | some m => m.version | none => nd.maxVersion }) }
      else none := by
  induction ms generalizing b nd with
  | nil => simp [applyOps, ← hcur]
  | cons m rest ih =>
    rw [List.map_cons, applyOps_cons, applyOp_kv hcur]
    by_cases hlt : nd.maxVersion < m.version
    · rw [if_pos hlt, Option.bind_some, ih rfl]
      -- `<` is transitive: below the first of an increasing list is below all of it
      have : (nd.maxVersion :: (m :: rest).map (·.version)).Pairwise (· < ·) ↔
          (m.version :: rest.map (·.version)).Pairwise (· < ·) :=
        ⟨fun h => (List.pairwise_cons.1 h).2, fun h => List.pairwise_cons.2 ⟨fun v hv =>
          (List.mem_cons.1 hv).elim (· ▸ hlt) fun hv => Nat.lt_trans hlt ((List.pairwise_cons.1 h).1 v hv), h⟩⟩
      simp only [this, List.getLast?_cons, List.append_assoc, List.singleton_append]
      cases rest.getLast? <;> rfl
    · rw [if_neg hlt, Option.bind_none, if_neg]
      intro h
      exact hlt ((List.pairwise_cons.1 h).1 _ List.mem_cons_self)

/-! ### the invariant -/

/-- start a new member -/
theorem inv_push (b : DeltaBuilder) (h : b.Inv) (i : Id) (hi : i ∉ b.existing) (nd : NodeDelta)
    (hnd : nd.WF) : Inv ⟨i :: b.existing, b.all, some (i, nd)⟩ := by
  obtain ⟨hwf, hnodup, hkn⟩ := h
  refine ⟨forall_mem_concat hwf hnd, ?_,
    forall_mem_concat (fun p hp => List.mem_cons_of_mem _ (hkn p hp)) List.mem_cons_self⟩
  rw [all_some, List.map_append, List.nodup_append]
  refine ⟨hnodup, List.pairwise_singleton _ _, ?_⟩
  intro a ha c hc heq
  obtain ⟨p, hp, rfl⟩ := List.mem_map.1 ha
  simp only [List.map_cons, List.map_nil, List.mem_singleton] at hc
  exact hi (hc ▸ heq ▸ hkn p hp)

/-- replace the node delta in progress by a well-formed one for the same member -/
theorem inv_update (b : DeltaBuilder) (h : b.Inv) {i : Id} {nd : NodeDelta}
    (hc : b.current = some (i, nd)) (nd' : NodeDelta) (hwf' : nd'.WF) :
    Inv { b with current := some (i, nd') } := by
  obtain ⟨e, d, c⟩ := b
  cases hc
  obtain ⟨hwf, hnodup, hkn⟩ := h
  rw [all_some] at hwf hnodup hkn
  refine ⟨forall_mem_concat (fun p hp => hwf p (List.mem_append_left _ hp)) hwf', ?_,
    forall_mem_concat (fun p hp => hkn p (List.mem_append_left _ hp))
      (hkn (i, nd) (List.mem_append_right _ List.mem_cons_self))⟩
  rw [List.map_append] at hnodup
  rw [all_some, List.map_append]
  exact hnodup

theorem inv_applyOp {b b' : DeltaBuilder} {op : DeltaOp} (h : b.Inv)
    (hop : b.applyOp op = some b') : b'.Inv := by
  revert hop
  fun_cases b.applyOp op <;> intro hop <;> cases hop
  · rename_i i g f b1 hnew
    simp only [b1, flush_eq] at hnew ⊢
    exact inv_push b h i (by simpa using hnew) _ ⟨.nil, fun _ hkv => absurd hkv List.not_mem_nil⟩
  · rename_i m i nd hc hlt
    have hnd := h.wf (i, nd) (mem_all_of_current hc)
    refine inv_update b h hc _ ⟨?_, forall_mem_concat
      (fun kv hkv => Nat.le_of_lt (Nat.lt_of_le_of_lt (hnd.leMax kv hkv) hlt)) (Nat.le_refl _)⟩
    simp only [List.pairwise_append, List.mem_singleton, forall_eq]
    exact ⟨hnd.increasing, List.pairwise_singleton _ _,
      fun a ha => Nat.lt_of_le_of_lt (hnd.leMax a ha) hlt⟩
  · rename_i v i nd hc hle
    have hnd := h.wf (i, nd) (mem_all_of_current hc)
    exact inv_update b h hc _ ⟨hnd.increasing, fun kv hkv => Nat.le_trans (hnd.leMax kv hkv) hle⟩

theorem inv_applyOps {ops : List DeltaOp} {b b' : DeltaBuilder} (h : b.Inv)
    (hop : b.applyOps ops = some b') : b'.Inv := by
  fun_induction b.applyOps ops with
  | case1 =>
    cases hop
    exact h
  | case2 => cases hop
  | case3 b op ops b1 h1 ih => exact ih (inv_applyOp h h1) hop

end DeltaBuilder

/-! ### the builder gives back the node deltas whose ops it is fed -/

/-- A node delta as an honest sender emits it. (The decoder returns others too: a `SetMaxVersion` above
the last key-value.) -/
structure NodeDelta.Emittable (nd : NodeDelta) : Prop where
  increasing : nd.kvs.Pairwise (fun a b => a.version < b.version)
  positive : ∀ kv ∈ nd.kvs, 0 < kv.version
  maxIsLast : ∀ kv, nd.kvs.getLast? = some kv → nd.maxVersion = kv.version

open DeltaBuilder in
theorem applyOps_nodeDelta (b : DeltaBuilder) (p : Id × NodeDelta) (hp : p.2.Emittable)
    (hnew : p.1 ∉ b.existing) :
    b.applyOps (nodeDeltaOps p) = some ⟨p.1 :: b.existing, b.all, some p⟩ := by
  obtain ⟨i, f, g, kvs, mx⟩ := p
  have hinc : ((0 : Nat) :: kvs.map (·.version)).Pairwise (· < ·) :=
    List.pairwise_cons.2 ⟨List.forall_mem_map.2 hp.positive, List.pairwise_map.2 hp.increasing⟩
  rw [nodeDeltaOps, List.append_assoc, List.singleton_append, applyOps_cons, applyOp_node, if_neg hnew,
    Option.bind_some, applyOps_append, applyOps_kvs kvs rfl, if_pos hinc, Option.bind_some]
  -- what is left is the optional `SetMaxVersion`, sent only for an empty node delta
  cases hl : kvs.getLast? with
  | none =>
    cases List.getLast?_eq_none_iff.1 hl
    cases mx <;> simp [applyOps, applyOp]
  | some kv =>
    obtain rfl : mx = kv.version := hp.maxIsLast kv hl
    have hne : kvs ≠ [] := by rintro rfl; cases hl
    rw [if_neg (fun h => hne h.1)]
    rfl

theorem applyOps_delta_ops (nds : List (Id × NodeDelta))
    (hem : ∀ p ∈ nds, p.2.Emittable) (hnd : (nds.map (·.1)).Nodup)
    (b : DeltaBuilder) (hfresh : ∀ p ∈ nds, p.1 ∉ b.existing) :
    ∃ b', b.applyOps ((nds.map nodeDeltaOps).flatten) = some b' ∧ b'.all = b.all ++ nds := by
  induction nds generalizing b with
  | nil => exact ⟨b, rfl, by simp⟩
  | cons p rest ih =>
    rw [List.map_cons, List.nodup_cons] at hnd
    simp only [List.map_cons, List.flatten_cons, DeltaBuilder.applyOps_append,
      applyOps_nodeDelta b p (hem p List.mem_cons_self) (hfresh p List.mem_cons_self),
      Option.bind_some]
    obtain ⟨b', hb, hall⟩ := ih (fun q hq => hem q (List.mem_cons_of_mem _ hq)) hnd.2
      ⟨p.1 :: b.existing, b.all, some p⟩ (fun q hq hin => by
        rcases List.mem_cons.1 hin with hin | hin
        · exact hnd.1 (List.mem_map.2 ⟨q, hq, hin⟩)
        · exact hfresh q (List.mem_cons_of_mem _ hq) hin)
    exact ⟨b', hb, by rw [hall, DeltaBuilder.all_some, List.append_assoc]; rfl⟩

end Chitchat
