/-
Lemmas/Message.lean — what the heartbeat tick and the heartbeat reports (one, or those of a digest) do to
the copies a node holds; then `process_message` taken apart once: when a call succeeds and what it then
did, per message kind. (A `BadCluster` is `rfl`: the node ticks its heartbeat and answers nothing.)
-/
import ChitchatModel.Lemmas.Cluster
import ChitchatModel.Model.Chitchat
namespace Chitchat
open Node ClusterState NodeState

/-- the heartbeat a node has recorded for member `i` (0 when it holds no copy) -/
def Node.hbOf (n : Node) (i : Id) : Nat := ((n.cs.nodeState i).map (·.heartbeat)).getD 0

/-- Is a report about `i` with heartbeat `hb` refused because `i` was removed with a heartbeat at
least as high? -/
def Node.blocked (n : Node) (i : Id) (hb : Nat) : Prop :=
  match n.cs.lastHeartbeatIfDeleted i with
  | some last => ¬ last < hb
  | none => False

namespace Node

/-! ### `reportBase`, `reportHeartbeat`, `updateSelfHeartbeat` -/

theorem reportBase_cases (n : Node) (i : Id) (hb : Nat) :
    (n.blocked i hb ∧ n.reportBase i hb = n.cs) ∨ (¬ n.blocked i hb ∧ n.reportBase i hb = n.cs.initIfAbsent i) := by
  unfold reportBase blocked
  cases n.cs.lastHeartbeatIfDeleted i with
  | none => exact Or.inr ⟨id, rfl⟩
  | some last =>
    by_cases h : last < hb
    · exact Or.inr ⟨fun k => k h, if_pos h⟩
    · exact Or.inl ⟨h, if_neg h⟩

theorem reportBase_of_some (n : Node) (i : Id) (hb : Nat) {s : NodeState} (h : n.cs.nodeState i = some s) :
    n.reportBase i hb = n.cs := by
  rcases reportBase_cases n i hb with ⟨_, e⟩ | ⟨_, e⟩
  · exact e
  · rw [e, initIfAbsent_of_some h]

theorem nodeState_reportBase_ne (n : Node) (i j : Id) (hb : Nat) (h : j ≠ i) :
    (n.reportBase i hb).nodeState j = n.cs.nodeState j := by
  rcases reportBase_cases n i hb with ⟨_, e⟩ | ⟨_, e⟩
  · rw [e]
  · rw [e, nodeState_initIfAbsent, if_neg h]

theorem reportHeartbeat_cases (n : Node) (i : Id) (hb now : Nat) :
    n.reportHeartbeat i hb now = n ∨
    ∃ s, i ≠ n.cfg.selfId ∧ (n.reportBase i hb).nodeState i = some s ∧
      n.reportHeartbeat i hb now =
        { n with cs := (n.reportBase i hb).setNode i (s.trySetHeartbeat hb).1,
                 fd := if (s.trySetHeartbeat hb).2 = true then n.fd.reportHeartbeat n.cfg.fd i now else n.fd } := by
  unfold reportHeartbeat
  by_cases hi : i = n.cfg.selfId
  · exact Or.inl (if_pos hi)
  · rw [if_neg hi]
    cases (n.reportBase i hb).nodeState i with
    | none => exact Or.inl rfl
    | some s => exact Or.inr ⟨s, hi, rfl, rfl⟩

theorem cfg_updateSelfHeartbeat (n : Node) : n.updateSelfHeartbeat.cfg = n.cfg := rfl

theorem cfg_reportHeartbeat (n : Node) (i : Id) (hb now : Nat) : (n.reportHeartbeat i hb now).cfg = n.cfg := by
  rcases reportHeartbeat_cases n i hb now with e | ⟨s, _, _, e⟩ <;> rw [e]

theorem nodeState_reportHeartbeat (n : Node) (i : Id) (hb now : Nat) (j : Id) :
    (n.reportHeartbeat i hb now).cs.nodeState j = n.cs.nodeState j ∨
    (j = i ∧ j ≠ n.cfg.selfId ∧ (n.reportHeartbeat i hb now).cs.nodeState j =
      some { (n.cs.nodeState j).getD NodeState.empty with
        heartbeat := max ((n.cs.nodeState j).getD NodeState.empty).heartbeat hb }) := by
  rcases reportHeartbeat_cases n i hb now with e | ⟨s, hne, hs, e⟩
  · exact Or.inl (by rw [e])
  · rw [e]
    dsimp only
    by_cases hji : j = i
    · subst hji
      -- the copy `reportBase` holds is the node's, or the empty one
      have hs' : s = (n.cs.nodeState j).getD NodeState.empty := by
        rcases reportBase_cases n j hb with ⟨_, eb⟩ | ⟨_, eb⟩
        · rw [eb] at hs
          rw [hs, Option.getD_some]
        · rw [eb, nodeState_initIfAbsent, if_pos rfl] at hs
          exact (Option.some.inj hs).symm
      refine Or.inr ⟨rfl, hne, ?_⟩
      rw [← hs', ← trySetHeartbeat_fst, nodeState_setNode, if_pos rfl]
    · rw [nodeState_setNode, if_neg hji, nodeState_reportBase_ne n i j hb hji]
      exact Or.inl rfl

theorem lastHeartbeatIfDeleted_reportHeartbeat_ne (n : Node) (i j : Id) (hb now : Nat) (h : j ≠ i) :
    (n.reportHeartbeat i hb now).cs.lastHeartbeatIfDeleted j = n.cs.lastHeartbeatIfDeleted j := by
  rcases reportHeartbeat_cases n i hb now with e | ⟨s, _, _, e⟩
  · rw [e]
  · rw [e]
    show (n.reportBase i hb).lastHeartbeatIfDeleted j = _
    rcases reportBase_cases n i hb with ⟨_, e⟩ | ⟨_, e⟩
    · rw [e]
    · rw [e, lastHeartbeatIfDeleted_initIfAbsent_ne _ h]

theorem nodeState_updateSelfHeartbeat (n : Node) (i : Id) :
    n.updateSelfHeartbeat.cs.nodeState i =
      if i = n.cfg.selfId then some { n.selfState with heartbeat := n.selfState.heartbeat + 1 }
      else n.cs.nodeState i := by
  unfold updateSelfHeartbeat selfState
  dsimp only
  rw [nodeState_setNode, nodeState_initIfAbsent, nodeState_initIfAbsent, if_pos rfl]
  split <;> rfl

theorem nodeState_updateSelfHeartbeat_ne (n : Node) (i : Id) (h : i ≠ n.cfg.selfId) :
    n.updateSelfHeartbeat.cs.nodeState i = n.cs.nodeState i := by
  rw [nodeState_updateSelfHeartbeat, if_neg h]

/-! ### the heartbeats of a digest -/

theorem reportHeartbeatsInDigest_induct {P : Node → Prop} (n : Node) (d : Digest) (now : Nat) (h0 : P n)
    (step : ∀ m, P m → ∀ p ∈ d, P (m.reportHeartbeat p.1 p.2.heartbeat now)) :
    P (n.reportHeartbeatsInDigest d now) :=
  List.foldlRecOn d _ h0 step

theorem cfg_reportHeartbeatsInDigest (n : Node) (d : Digest) (now : Nat) :
    (n.reportHeartbeatsInDigest d now).cfg = n.cfg :=
  reportHeartbeatsInDigest_induct (P := fun m => m.cfg = n.cfg) n d now rfl
    (fun m hm _ _ => (cfg_reportHeartbeat m _ _ _).trans hm)

theorem nodeState_reportHeartbeatsInDigest (n : Node) (d : Digest) (now : Nat) (j : Id) :
    (n.reportHeartbeatsInDigest d now).cs.nodeState j = n.cs.nodeState j ∨
    (j ∈ d.map (·.1) ∧ j ≠ n.cfg.selfId ∧ ∃ h, ((n.cs.nodeState j).getD NodeState.empty).heartbeat ≤ h ∧
      (n.reportHeartbeatsInDigest d now).cs.nodeState j =
        some { (n.cs.nodeState j).getD NodeState.empty with heartbeat := h }) := by
  refine reportHeartbeatsInDigest_induct
    (P := fun m => m.cfg = n.cfg ∧ (m.cs.nodeState j = n.cs.nodeState j ∨
      (j ∈ d.map (·.1) ∧ j ≠ n.cfg.selfId ∧ ∃ h, ((n.cs.nodeState j).getD NodeState.empty).heartbeat ≤ h ∧
        m.cs.nodeState j = some { (n.cs.nodeState j).getD NodeState.empty with heartbeat := h })))
    n d now ⟨rfl, Or.inl rfl⟩ ?_ |>.2
  rintro m ⟨hcfg, hm⟩ p hp
  refine ⟨(cfg_reportHeartbeat ..).trans hcfg, ?_⟩
  rcases nodeState_reportHeartbeat m p.1 p.2.heartbeat now j with e | ⟨rfl, hne, e2⟩
  · rwa [e]
  · refine Or.inr ⟨List.mem_map.2 ⟨p, hp, rfl⟩, hcfg ▸ hne, ?_⟩
    rcases hm with e | ⟨_, _, h1, hle1, e1⟩
    · rw [e] at e2; exact ⟨_, Nat.le_max_left _ _, e2⟩
    · rw [e1] at e2; exact ⟨_, Nat.le_trans hle1 (Nat.le_max_left _ _), e2⟩

/-! ### `process_message` -/

theorem processMessage_syn_eq_ok {C : Compressor} {n n' : Node} {cid : Bytes} {digest : Digest} {now : Nat}
    {order : List Id} {fx : Effects} :
    n.processMessage C (.syn cid digest) now order = .ok (n', fx) ↔
    (cid ≠ n.cfg.clusterId ∧ n' = n.updateSelfHeartbeat ∧ fx = { reply := some .badCluster }) ∨
    (cid = n.cfg.clusterId ∧ n' = n.updateSelfHeartbeat.reportHeartbeatsInDigest digest now ∧
      n.cfg.headerReserve + digestLen (n'.cs.computeDigest (n'.scheduledForDeletion now)) ≤ maxDatagram ∧
      ∃ delta, n'.cs.computeDelta C digest
          (maxDatagram - n.cfg.headerReserve - digestLen (n'.cs.computeDigest (n'.scheduledForDeletion now)))
          (n'.scheduledForDeletion now) order = .ok delta ∧
        fx = { reply := some (.synAck (n'.cs.computeDigest (n'.scheduledForDeletion now)) delta) }) := by
  simp only [processMessage, cfg_reportHeartbeatsInDigest, cfg_updateSelfHeartbeat]
  constructor
  · intro h
    by_cases hcid : cid = n.cfg.clusterId
    · rw [if_neg (not_not_intro hcid)] at h
      split at h
      · cases h
      · rename_i hroom
        split at h
        · cases h
        · rename_i delta hd
          cases h
          exact Or.inr ⟨hcid, rfl, Nat.le_of_not_lt hroom, delta, hd, rfl⟩
    · rw [if_pos hcid] at h
      cases h
      exact Or.inl ⟨hcid, rfl, rfl⟩
  · rintro (⟨hcid, rfl, rfl⟩ | ⟨hcid, rfl, hroom, delta, hd, rfl⟩)
    · exact if_pos hcid
    · rw [if_neg (not_not_intro hcid), if_neg (Nat.not_lt.2 hroom), hd]

theorem processDelta_eq_ok {n n' : Node} {delta : Delta} {now cb : Nat} {evs : List (Id × Event)} :
    n.processDelta delta now = .ok (n', cb, evs) ↔
    ∃ cs' reset, ClusterState.applyDelta now n.cs delta.nodeDeltas = .ok (cs', reset, evs) ∧
      n' = { n with cs := cs' } ∧ cb = if reset then 1 else 0 := by
  unfold processDelta
  constructor
  · intro h
    split at h
    · cases h
    · rename_i cs reset evs' ha
      cases h
      exact ⟨cs, reset, ha, rfl, rfl⟩
  · rintro ⟨cs', reset, ha, rfl, rfl⟩
    rw [ha]

theorem processMessage_ack_eq_ok {C : Compressor} {n n' : Node} {delta : Delta} {now : Nat}
    {order : List Id} {fx : Effects} :
    n.processMessage C (.ack delta) now order = .ok (n', fx) ↔
    ∃ cs' reset evs, ClusterState.applyDelta now n.updateSelfHeartbeat.cs delta.nodeDeltas = .ok (cs', reset, evs) ∧
      n' = { n.updateSelfHeartbeat with cs := cs' } ∧
      fx = { callbacks := if reset then 1 else 0, events := evs } := by
  simp only [processMessage]
  constructor
  · intro h
    split at h
    · cases h
    · rename_i n1 cb evs hp
      cases h
      obtain ⟨cs', reset, ha, rfl, rfl⟩ := processDelta_eq_ok.1 hp
      exact ⟨cs', reset, evs, ha, rfl, rfl⟩
  · rintro ⟨cs', reset, evs, ha, rfl, rfl⟩
    rw [processDelta_eq_ok.2 ⟨cs', reset, ha, rfl, rfl⟩]

theorem processMessage_synAck_eq_ok {C : Compressor} {n n' : Node} {digest : Digest} {delta : Delta} {now : Nat}
    {order : List Id} {fx : Effects} :
    n.processMessage C (.synAck digest delta) now order = .ok (n', fx) ↔
    ∃ cs' reset evs d,
      ClusterState.applyDelta now (n.updateSelfHeartbeat.reportHeartbeatsInDigest digest now).cs delta.nodeDeltas
        = .ok (cs', reset, evs) ∧
      n' = { n.updateSelfHeartbeat.reportHeartbeatsInDigest digest now with cs := cs' } ∧
      cs'.computeDelta C digest (maxDatagram - n.cfg.headerReserve) (n'.scheduledForDeletion now) order = .ok d ∧
      fx = { reply := some (.ack d), callbacks := if reset then 1 else 0, events := evs } := by
  have hcfg : (n.updateSelfHeartbeat.reportHeartbeatsInDigest digest now).cfg = n.cfg :=
    cfg_reportHeartbeatsInDigest _ digest now
  simp only [processMessage]
  constructor
  · intro h
    split at h
    · cases h
    · rename_i n1 cb evs hp
      split at h
      · cases h
      · rename_i d hd
        cases h
        obtain ⟨cs', reset, ha, rfl, rfl⟩ := processDelta_eq_ok.1 hp
        exact ⟨cs', reset, evs, d, ha, rfl, by rw [← hcfg]; exact hd, rfl⟩
  · rintro ⟨cs', reset, evs, d, ha, rfl, hd, rfl⟩
    rw [← hcfg] at hd
    rw [processDelta_eq_ok.2 ⟨cs', reset, ha, rfl, rfl⟩]
    simp only [hd]

end Node

/-! ### recorded heartbeats -/

theorem hbOf_reportHeartbeat_target (n : Node) (i : Id) (hb now : Nat) (hne : i ≠ n.cfg.selfId)
    (hnb : ¬ n.blocked i hb) : hb ≤ (n.reportHeartbeat i hb now).hbOf i := by
  rcases reportBase_cases n i hb with ⟨hbk, _⟩ | ⟨_, hbase⟩
  · exact absurd hbk hnb
  · unfold Node.reportHeartbeat Node.hbOf
    rw [if_neg hne, hbase, nodeState_initIfAbsent, if_pos rfl]
    simp only [nodeState_setNode, if_true, Option.map_some, Option.getD_some, trySetHeartbeat_fst]
    exact Nat.le_max_right _ _

theorem blocked_reportHeartbeat_ne (n : Node) (i j : Id) (hb hb' now : Nat) (h : j ≠ i) :
    (n.reportHeartbeat i hb now).blocked j hb' ↔ n.blocked j hb' := by
  unfold Node.blocked
  rw [lastHeartbeatIfDeleted_reportHeartbeat_ne n i j hb now h]

theorem hbOf_reportHeartbeatsInDigest_mono (n : Node) (d : Digest) (now : Nat) (j : Id) :
    n.hbOf j ≤ (n.reportHeartbeatsInDigest d now).hbOf j := by
  unfold Node.hbOf
  rcases nodeState_reportHeartbeatsInDigest n d now j with e | ⟨_, _, h, hle, e⟩
  · rw [e]; exact Nat.le_refl _
  · rw [e]
    cases hs : n.cs.nodeState j with
    | none => exact Nat.zero_le _
    | some s => rw [hs] at hle; exact hle

theorem hbOf_reportHeartbeatsInDigest_of_mem (n : Node) {d : Digest} (now : Nat) (hnd : (d.map (·.1)).Nodup)
    {p : Id × NodeDigest} (hp : p ∈ d) (hne : p.1 ≠ n.cfg.selfId) (hnb : ¬ n.blocked p.1 p.2.heartbeat) :
    p.2.heartbeat ≤ (n.reportHeartbeatsInDigest d now).hbOf p.1 := by
  induction d generalizing n with
  | nil => cases hp
  | cons a t ih =>
    rw [List.map_cons, List.nodup_cons] at hnd
    show _ ≤ ((n.reportHeartbeat a.1 a.2.heartbeat now).reportHeartbeatsInDigest t now).hbOf p.1
    rcases List.mem_cons.1 hp with hpa | hpt
    · subst hpa
      exact Nat.le_trans (hbOf_reportHeartbeat_target n p.1 p.2.heartbeat now hne hnb)
        (hbOf_reportHeartbeatsInDigest_mono _ t now p.1)
    · have hpa : p.1 ≠ a.1 := fun e => hnd.1 (List.mem_map.2 ⟨p, hpt, e⟩)
      apply ih _ hnd.2 hpt
      · rwa [Node.cfg_reportHeartbeat]
      · rwa [blocked_reportHeartbeat_ne n a.1 p.1 a.2.heartbeat p.2.heartbeat now hpa]

end Chitchat
