/-
Lemmas/Stream.lean — the block-compressed stream: what the writer produces is decoded back to
exactly the bytes that were appended, trailing bytes left alone, for every sound compressor
(`decBlocks_finish`, by the writer invariant `WInv`).
-/
import ChitchatModel.Lemmas.WireRT
import ChitchatModel.Lemmas.Writer
namespace Chitchat

/-- `out` is the encoding of `n` blocks whose raw contents concatenate to `data`. -/
inductive Blocks (C : Compressor) : Bytes → Bytes → Nat → Prop
  | nil : Blocks C [] [] 0
  | comp (out data : Bytes) (n : Nat) (c raw : Bytes) :
      Blocks C out data n → C.decompress c = some raw → c.length ≤ 65535 →
      Blocks C (out ++ [1] ++ u16le c.length ++ c) (data ++ raw) (n + 1)
  | raw (out data : Bytes) (n : Nat) (raw : Bytes) :
      Blocks C out data n → raw.length ≤ 65535 →
      Blocks C (out ++ [2] ++ u16le raw.length ++ raw) (data ++ raw) (n + 1)

theorem Blocks.count_le {C : Compressor} {out data : Bytes} {n : Nat} (h : Blocks C out data n) :
    3 * n ≤ out.length := by
  induction h with
  | nil => exact Nat.le_refl 0
  | comp _ _ _ _ _ _ _ _ ih | raw _ _ _ _ _ _ ih =>
    simp only [List.length_append, u16le_length, List.length_cons, List.length_nil]
    -- `3 * (n + 1)` is `3 * n + 3` by definition
    exact Nat.le_trans (Nat.add_le_add_right ih 3) (Nat.le_add_right _ _)

/-! ### `decBlocks` on one block -/

theorem decBlocks_end (C : Compressor) (fuel : Nat) (acc tail : Bytes) :
    decBlocks C (fuel + 1) acc (0 :: tail) = some (acc, tail) := by
  simp [decBlocks, decU8]

theorem decBlocks_comp {C : Compressor} {c raw : Bytes} (h : C.decompress c = some raw)
    (hl : c.length ≤ 65535) (fuel : Nat) (acc tail : Bytes) :
    decBlocks C (fuel + 1) acc (1 :: (u16le c.length ++ (c ++ tail))) =
      decBlocks C fuel (acc ++ raw) tail := by
  simp [decBlocks, decU8, decU16_u16le (Nat.lt_succ_of_le hl), takeN_append rfl, h]

theorem decBlocks_raw (C : Compressor) {raw : Bytes} (hl : raw.length ≤ 65535) (fuel : Nat)
    (acc tail : Bytes) :
    decBlocks C (fuel + 1) acc (2 :: (u16le raw.length ++ (raw ++ tail))) =
      decBlocks C fuel (acc ++ raw) tail := by
  simp [decBlocks, decU8, decU16_u16le (Nat.lt_succ_of_le hl), takeN_append rfl]

theorem decBlocks_blocks {C : Compressor} {out data : Bytes} {n : Nat} (h : Blocks C out data n)
    (fuel : Nat) (acc tail : Bytes) :
    decBlocks C (n + fuel) acc (out ++ tail) = decBlocks C fuel (acc ++ data) tail := by
  induction h generalizing fuel acc tail with
  | nil => simp
  | comp out data n c raw hb hdec hlen ih =>
    simp only [List.append_assoc, List.cons_append, List.nil_append]
    rw [Nat.add_right_comm, Nat.add_assoc, ih, decBlocks_comp hdec hlen, List.append_assoc]
  | raw out data n raw hb hlen ih =>
    simp only [List.append_assoc, List.cons_append, List.nil_append]
    rw [Nat.add_right_comm, Nat.add_assoc, ih, decBlocks_raw C hlen, List.append_assoc]

/-- Writer invariant: the output decodes to `data`, and `data ++ block` is everything appended. -/
structure WInv (C : Compressor) (w : Writer) (all : Bytes) : Prop where
  blocks : ∃ data n, Blocks C w.output data n ∧ data ++ w.block = all
  thrPos : 0 < w.threshold
  thrLe : w.threshold ≤ 65535

theorem WInv.init (C : Compressor) (thr : Nat) (h0 : 0 < thr) (h1 : thr ≤ 65535) :
    WInv C { threshold := thr } [] :=
  ⟨⟨[], 0, Blocks.nil, rfl⟩, h0, h1⟩

/-! ### the writer keeps its invariant -/

theorem Blocks.frame {C : Compressor} (hC : C.Sound) {out data : Bytes} {n : Nat}
    (h : Blocks C out data n) {raw : Bytes} (hl : raw.length ≤ 65535) :
    Blocks C (out ++ frame C raw) (data ++ raw) (n + 1) := by
  unfold Chitchat.frame
  split
  · simpa only [List.append_assoc] using
      h.comp _ _ _ _ _ (hC.roundtrip _ _ ‹_›) (Nat.le_trans (hC.shrink _ _ ‹_›) hl)
  · simpa only [List.append_assoc] using h.raw _ _ _ _ hl

theorem WInv.flushBlock {C : Compressor} (hC : C.Sound) {w : Writer} {all : Bytes} (h : WInv C w all) :
    WInv C (w.flushBlock C) all := by
  obtain ⟨⟨data, n, hb, hall⟩, h0, h1⟩ := h
  rw [flushBlock_eq]
  by_cases hnil : w.block = []
  · exact ⟨⟨data, n, by simpa [hnil] using hb, by simpa [hnil] using hall⟩, h0, h1⟩
  · rw [if_neg hnil]
    exact ⟨⟨_, _, hb.frame hC (Nat.le_trans (List.length_take_le _ _) h1),
      by rwa [List.append_assoc, List.take_append_drop]⟩, h0, h1⟩

theorem WInv.flushLoop {C : Compressor} (hC : C.Sound) (fuel : Nat) {w : Writer} {all : Bytes}
    (h : WInv C w all) : WInv C (Writer.flushLoop C fuel w) all :=
  flushLoop_induct C (WInv C · all) (fun _ => WInv.flushBlock hC) fuel w h

theorem WInv.append {C : Compressor} (hC : C.Sound) {w : Writer} {all : Bytes} (h : WInv C w all)
    (item : Bytes) : WInv C (w.append C item) (all ++ item) := by
  obtain ⟨⟨data, n, hb, hall⟩, h0, h1⟩ := h
  exact WInv.flushLoop hC _ ⟨⟨data, n, hb, by rw [← hall, List.append_assoc]⟩, h0, h1⟩

theorem WInv.appendAll {C : Compressor} (hC : C.Sound) (items : List Bytes) (w : Writer) (all : Bytes)
    (h : WInv C w all) (hle : w.block.length ≤ w.threshold) :
    WInv C (items.foldl (fun w it => w.append C it) w) (all ++ items.flatten) ∧
    (items.foldl (fun w it => w.append C it) w).block.length ≤ w.threshold ∧
    (items.foldl (fun w it => w.append C it) w).threshold = w.threshold := by
  induction items generalizing w all with
  | nil => exact ⟨by simpa using h, hle, rfl⟩
  | cons it rest ih =>
    rw [List.foldl_cons, List.flatten_cons, ← List.append_assoc, ← append_threshold C w it]
    exact ih (w.append C it) (all ++ it) (h.append hC it) (append_block_le C w it h.thrPos)

theorem decBlocks_finish {C : Compressor} (hC : C.Sound) {w : Writer} {all : Bytes} (h : WInv C w all)
    (hle : w.block.length ≤ w.threshold) (rest : Bytes) (fuel : Nat)
    (hf : (w.finish C).length < fuel) :
    decBlocks C fuel [] (w.finish C ++ rest) = some (all, rest) := by
  obtain ⟨⟨data, n, hb, hall⟩, -, -⟩ := h.flushBlock hC
  rw [flushBlock_block, List.drop_eq_nil_of_le hle, List.append_nil] at hall
  subst hall
  unfold Writer.finish at hf ⊢
  rw [List.length_append] at hf
  -- n ≤ 3 * n ≤ output.length < output.length + 1 < fuel
  have hn : n ≤ (w.flushBlock C).output.length :=
    Nat.le_trans (Nat.le_mul_of_pos_left n (by decide)) hb.count_le
  obtain ⟨k, rfl⟩ := Nat.exists_eq_add_of_lt (Nat.lt_of_le_of_lt hn (Nat.lt_of_succ_lt hf))
  rw [List.append_assoc, Nat.add_assoc, decBlocks_blocks hb, List.nil_append]
  exact decBlocks_end C k data rest

end Chitchat
