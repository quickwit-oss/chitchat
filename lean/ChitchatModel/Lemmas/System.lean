/-
Lemmas/System.lean — the copy-level step relation for one member X: its owner, every replica of its
state anywhere in the cluster, and every delta about it ever computed (kept forever: loss = never
delivering, duplication = delivering twice, reordering / delay / relays through stale peers /
late joiners = schedules). This over-approximates every network behaviour, which is sound for
safety properties.
-/
import ChitchatModel.Lemmas.CopyWF
import ChitchatModel.Lemmas.Catchup
namespace Chitchat
open NodeState Ledger ClusterState

/-- what the owner does when a local write is effective: version `max + 1` -/
def ownerWriteExec (o : NodeState) (w : Write) (now : Nat) : NodeState :=
  { o with maxVersion := o.maxVersion + 1,
           kvs := AL.insert bytesLt w.key ⟨w.value, o.maxVersion + 1, w.st.intoStatus now⟩ o.kvs }

theorem ownerWriteExec_eq_bump (o : NodeState) (w : Write) (now : Nat) :
    ownerWriteExec o w now = bump o w.key w.value (w.st.intoStatus now) := rfl

theorem absCopy_ownerWriteExec (o : NodeState) (w : Write) (now : Nat) :
    absCopy (ownerWriteExec o w now) = ownerWrite (absCopy o) w := by
  unfold absCopy ownerWriteExec ownerWrite
  rw [Copy.mk.injEq]
  refine ⟨rfl, rfl, ?_⟩
  funext k
  rw [AL.lookup_insert]
  split <;> simp [entOfVV, toM_intoStatus]

/-! ### the system -/

structure XSys where
  H : List Write                        -- ghost: everything the owner ever wrote
  owner : NodeState
  replicas : List NodeState
  deltas : List (NodeDelta × Nat)       -- with the ghost horizon of their sender

def XSys.init : XSys := ⟨[], { heartbeat := 1 }, [], []⟩

/-- The KF-1 pattern: an incremental apply into a copy whose watermark is above both the delta's max
version and the horizon of the delta's sender. -/
def kf1Pattern (r : NodeState) (d : NodeDelta × Nat) : Prop :=
  r.checkDeltaStatus d.1 = .apply ∧ d.1.maxVersion < r.lastGc ∧ d.2 < r.lastGc

inductive XStep (guarded : Bool) : XSys → XSys → Prop
  | write (σ : XSys) (w : Write) (now : Nat) :
      XStep guarded σ { σ with H := σ.H ++ [w], owner := ownerWriteExec σ.owner w now }
  | gcOwner (σ : XSys) (now grace : Nat) :
      XStep guarded σ { σ with owner := σ.owner.gcKeys now grace }
  | gcReplica (σ : XSys) (i : Nat) (now grace : Nat) (r : NodeState) (hr : σ.replicas[i]? = some r) :
      XStep guarded σ { σ with replicas := σ.replicas.set i (r.gcKeys now grace) }
  | join (σ : XSys) (hb : Nat) :
      XStep guarded σ { σ with replicas := σ.replicas ++ [⟨hb, [], 0, 0⟩] }
  | remove (σ : XSys) (i : Nat) :
      XStep guarded σ { σ with replicas := σ.replicas.eraseIdx i }
  | offerOwner (σ : XSys) (f n : Nat) (b : Bool) :
      XStep guarded σ { σ with deltas := σ.deltas ++
        [(senderNodeDelta σ.owner f n b, max σ.owner.lastGc σ.owner.maxVersion)] }
  | offerReplica (σ : XSys) (i : Nat) (s : NodeState) (hs : σ.replicas[i]? = some s) (f n : Nat) (b : Bool) :
      XStep guarded σ { σ with deltas := σ.deltas ++ [(senderNodeDelta s f n b, max s.lastGc s.maxVersion)] }
  | deliver (σ : XSys) (i : Nat) (r : NodeState) (hr : σ.replicas[i]? = some r)
      (d : NodeDelta × Nat) (hd : d ∈ σ.deltas) (now : Nat)
      (r' : NodeState) (st : DeltaStatus) (evs : List Event)
      (happ : r.applyDelta d.1 now = .ok (r', st, evs))
      (hguard : guarded = true → ¬ kf1Pattern r d) :
      XStep guarded σ { σ with replicas := σ.replicas.set i r' }
  | catchup (σ : XSys) (i j : Nat) (s d : NodeState) (hs : σ.replicas[i]? = some s)
      (hd : σ.replicas[j]? = some d) :
      -- honest external catch-up: holder `j`'s application fetches holder `i`'s copy and feeds it
      -- through `reset_node_state_if_update`
      XStep guarded σ { σ with replicas := σ.replicas.set j (d.catchupCopy s.kvs s.maxVersion s.lastGc) }
  | catchupFromOwner (σ : XSys) (j : Nat) (d : NodeState) (hd : σ.replicas[j]? = some d) :
      XStep guarded σ { σ with replicas := σ.replicas.set j (d.catchupCopy σ.owner.kvs σ.owner.maxVersion σ.owner.lastGc) }
  | deliverToOwner (σ : XSys) (d : NodeDelta × Nat) (hd : d ∈ σ.deltas) (now : Nat)
      (o' : NodeState) (st : DeltaStatus) (evs : List Event)
      (happ : σ.owner.applyDelta d.1 now = .ok (o', st, evs)) :
      XStep guarded σ { σ with owner := o' }

inductive XReach (guarded : Bool) : XSys → Prop
  | init : XReach guarded XSys.init
  | step (σ σ' : XSys) : XReach guarded σ → XStep guarded σ σ' → XReach guarded σ'

/-- The system invariant. `full = true` adds the C02 part (`Inv`, `DeltaOK`). -/
structure XInv (full : Bool) (σ : XSys) : Prop where
  ownerFull : σ.owner.maxVersion = σ.H.length
  ownerWF : WFCopy σ.owner
  ownerInv : Inv σ.H (absCopy σ.owner)
  repWF : ∀ r ∈ σ.replicas, WFCopy r
  repInvW : ∀ r ∈ σ.replicas, InvW σ.H (absCopy r)
  repInv : full = true → ∀ r ∈ σ.replicas, Inv σ.H (absCopy r)
  deltaWF : ∀ d ∈ σ.deltas, d.1.WF ∧ (d.1.kvs.map (·.key)).Nodup ∧ (∀ kv ∈ d.1.kvs, 1 ≤ kv.version)
  deltaOKW : ∀ d ∈ σ.deltas, DeltaOKW σ.H (absDelta d.1 d.2)
  deltaOK : full = true → ∀ d ∈ σ.deltas, DeltaOK σ.H (absDelta d.1 d.2)

end Chitchat
