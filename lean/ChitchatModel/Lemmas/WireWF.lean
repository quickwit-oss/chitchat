/-
Lemmas/WireWF.lean — what the wire format can carry (`WFStr`, `WFAddr`, `WFId`, `WFNodeDigest`, `WFKVM`,
`WFOp`: lengths below 2^16, integers below 2^64, valid UTF-8) and how long its encoding is.
-/
import ChitchatModel.Model.Wire
namespace Chitchat

def two64 : Nat := 18446744073709551616

@[simp] theorem u16le_length (n : Nat) : (u16le n).length = 2 := rfl

@[simp] theorem u64le_length (n : Nat) : (u64le n).length = 8 := rfl

structure WFStr (s : Bytes) : Prop where
  len : s.length ≤ 65535
  utf8 : validUtf8 s = true

@[simp] theorem encStr_length (s : Bytes) : (encStr s).length = 2 + s.length := by
  simp [encStr]

inductive WFAddr : Addr → Prop
  | v4 (o : Bytes) (p : Nat) : o.length = 4 → p < 65536 → WFAddr (.v4 o p)
  | v6 (o : Bytes) (p : Nat) : o.length = 16 → p < 65536 → WFAddr (.v6 o p)

theorem encAddr_length {a : Addr} (h : WFAddr a) : (encAddr a).length = addrLen a := by
  cases h <;> simp [encAddr, addrLen, *]

structure WFId (i : Id) : Prop where
  nodeId : WFStr i.nodeId
  gen : i.gen < two64
  addr : WFAddr i.addr

theorem encId_length {i : Id} (h : WFId i) : (encId i).length = idLen i := by
  simp +arith [encId, idLen, encAddr_length h.addr]

structure WFNodeDigest (d : NodeDigest) : Prop where
  hb : d.heartbeat < two64
  gc : d.lastGc < two64
  mx : d.maxVersion < two64

structure WFKVM (m : KVM) : Prop where
  key : WFStr m.key
  value : WFStr m.value
  version : m.version < two64

inductive WFOp : DeltaOp → Prop
  | node (i : Id) (g f : Nat) : WFId i → g < two64 → f < two64 → WFOp (.node i g f)
  | kv (m : KVM) : WFKVM m → WFOp (.kv m)
  | setMax (v : Nat) : v < two64 → WFOp (.setMax v)

theorem encOp_length {op : DeltaOp} (h : WFOp op) : (encOp op).length = opLen op := by
  cases h with
  | node i g f hi hg hf => simp +arith [encOp, opLen, encId_length hi]
  | kv m hm => simp +arith [encOp, opLen, encKVM]
  | setMax v hv => rfl

theorem encOp_ne_nil (op : DeltaOp) : encOp op ≠ [] := by
  cases op <;> simp [encOp]

end Chitchat
