/-
Lemmas/Emit.lean — what `compute_partial_delta_respecting_mtu` emits, whatever the byte budget and
the compressor did: the reply is what the `DeltaBuilder` makes of a trace of admitted ops
(`computeDelta_admits`), and it turns the ops of a member cut at `(n, setMax)` into
`senderNodeDelta … n setMax` (`applyOps_memberOps`). Hence the reply is a list of such node deltas
(`computeDelta_cuts`), and it is well formed (`computeDelta_wf`). This is the link between the
executable sender and the abstract emission the replication theorems (C01–C03, C14) quantify over.
-/
import ChitchatModel.Lemmas.Serializer
namespace Chitchat
open ClusterState NodeState

/-- `p` is the id of stale member `sn` with what a receiver decodes for it at some truncation point. -/
def ShapeOf (sn : StaleNode) (p : Id × NodeDelta) : Prop :=
  sn.id = p.1 ∧ ∃ (n : Nat) (setMax : Bool), p.2 = senderNodeDelta sn.state sn.fromExcl n setMax

open DeltaBuilder in
theorem applyOps_memberOps {b b' : DeltaBuilder} {sn : StaleNode} {n : Nat} {setMax : Bool}
    (h : b.applyOps (memberOps sn n setMax) = some b') :
    b' = ⟨sn.id :: b.existing, b.all, some (sn.id, senderNodeDelta sn.state sn.fromExcl n setMax)⟩ := by
  rw [memberOps, applyOps_cons, applyOp_node] at h
  by_cases hex : sn.id ∈ b.existing
  · rw [if_pos hex] at h
    cases h
  rw [if_neg hex, Option.bind_some, applyOps_append, applyOps_kvs _ rfl] at h
  dsimp only at h
  split at h
  · unfold senderNodeDelta
    by_cases hs : setMax = true ∧ sn.state.staleKvs sn.fromExcl = []
    · -- no key-values: the max version so far is 0, and the `SetMaxVersion` op is accepted
      rw [if_pos hs, hs.2, List.take_nil] at h ⊢
      simp only [List.map_nil, List.getLast?_nil] at h
      rw [Option.bind_some, applyOps_cons, applyOp_setMax rfl, if_pos (Nat.zero_le _)] at h
      cases h
      rfl
    · rw [if_neg hs] at h ⊢
      cases h
      -- the same `match` on the last key-value, once from `applyOps_kvs`, once from `senderNodeDelta`
      rfl
  · cases h

/-- The node delta of a member cut at `(n, setMax)`. -/
def Cuts.nodeDeltas (tr : Cuts) : List (Id × NodeDelta) :=
  tr.map fun t => (t.1.id, senderNodeDelta t.1.state t.1.fromExcl t.2.1 t.2.2)

theorem applyOps_cuts (tr : Cuts) {b b' : DeltaBuilder} (h : b.applyOps tr.ops = some b') :
    b'.all = b.all ++ tr.nodeDeltas := by
  induction tr generalizing b with
  | nil =>
    cases h
    exact (List.append_nil _).symm
  | cons t tr ih =>
    simp only [Cuts.ops, List.flatMap_cons, DeltaBuilder.applyOps_append, Option.bind_eq_some_iff] at h
    obtain ⟨b1, h1, h2⟩ := h
    rw [ih h2, applyOps_memberOps h1, DeltaBuilder.all_some, List.append_assoc]
    rfl

/-! ### the reply -/

theorem computeDelta_eq_ok {C : Compressor} {cs : ClusterState} {digest : Digest} {mtu : Nat}
    {sched order : List Id} {delta : Delta} :
    computeDelta C cs digest mtu sched order = .ok delta ↔
      100 ≤ mtu ∧ ∃ ds', addNodes C { mtu := mtu, writer := { threshold := min 16384 mtu } }
        (sortStale order (staleNodes cs digest sched)) = .ok ds' ∧ ds'.finish C = delta := by
  unfold computeDelta DeltaSerializer.withMtu
  by_cases h100 : mtu ≥ 100
  · rw [if_pos h100]
    simp only [show 100 ≤ mtu from h100, true_and]
    split <;> rename_i ha <;> simp [ha]
  · rw [if_neg h100]
    exact ⟨nofun, fun h => absurd h.1 h100⟩

theorem computeDelta_admits {C : Compressor} {cs : ClusterState} {digest : Digest} {mtu : Nat}
    {sched order : List Id} {delta : Delta} (h : computeDelta C cs digest mtu sched order = .ok delta) :
    ∃ (tr : Cuts) (ds' : DeltaSerializer), (∀ t ∈ tr, t.1 ∈ staleNodes cs digest sched) ∧
      Admits C { mtu := mtu, writer := { threshold := min 16384 mtu } } tr.ops ds' ∧
      delta = ds'.finish C := by
  obtain ⟨_, ds', ha, rfl⟩ := computeDelta_eq_ok.1 h
  obtain ⟨tr, hsub, htr⟩ := addNodes_admits ha
  exact ⟨tr, ds', fun t ht => mem_sortStale.1 (hsub t ht), htr, rfl⟩

theorem computeDelta_cuts {C : Compressor} {cs : ClusterState} {digest : Digest} {mtu : Nat}
    {sched order : List Id} {delta : Delta} (h : computeDelta C cs digest mtu sched order = .ok delta) :
    ∃ tr : Cuts, (∀ t ∈ tr, t.1 ∈ staleNodes cs digest sched) ∧ delta.nodeDeltas = tr.nodeDeltas := by
  obtain ⟨tr, ds', hsub, htr, rfl⟩ := computeDelta_admits h
  refine ⟨tr, hsub, ?_⟩
  rw [DeltaSerializer.finish, DeltaBuilder.finish_nodeDeltas, applyOps_cuts tr htr.builder]
  rfl

/-- **Emission shape.** Every node delta `computeDelta` produces is `senderNodeDelta` of one of
the stale members, for some truncation point. -/
theorem computeDelta_shape (C : Compressor) (cs : ClusterState) (digest : Digest) (mtu : Nat)
    (sched order : List Id) (delta : Delta)
    (h : computeDelta C cs digest mtu sched order = .ok delta) :
    ∀ p ∈ delta.nodeDeltas, ∃ sn ∈ staleNodes cs digest sched, ShapeOf sn p := by
  obtain ⟨tr, hsub, hnd⟩ := computeDelta_cuts h
  intro p hp
  rw [hnd] at hp
  obtain ⟨t, ht, rfl⟩ := List.mem_map.1 hp
  exact ⟨t.1, hsub t ht, rfl, _, _, rfl⟩

theorem computeDelta_wf {C : Compressor} {cs : ClusterState} {digest : Digest} {mtu : Nat}
    {sched order : List Id} {delta : Delta} (h : computeDelta C cs digest mtu sched order = .ok delta) :
    (delta.nodeDeltas.map (·.1)).Nodup ∧ ∀ p ∈ delta.nodeDeltas, p.2.WF := by
  obtain ⟨tr, ds', _, htr, rfl⟩ := computeDelta_admits h
  have hinv := DeltaBuilder.inv_applyOps DeltaBuilder.inv_empty htr.builder
  rw [DeltaSerializer.finish, DeltaBuilder.finish_nodeDeltas]
  exact ⟨hinv.nodup, hinv.wf⟩

end Chitchat
