/-
Lemmas/LedgerRefine.lean — the executable model refines the abstract ledger layer:
`absCopy (apply_delta r nd) = applyInc / applyReset (absCopy r) (absDelta nd)`, tombstone GC is
`gcCopy`, and the node delta a sender computes is `mkDelta` of its copy.
-/
import ChitchatModel.Lemmas.Ledger
import ChitchatModel.Lemmas.Sender
import ChitchatModel.Lemmas.NodeState
namespace Chitchat
open NodeState Ledger

def entOfVV (v : VV) : Ent := ⟨v.value, v.version, v.status.toM⟩

def entOfKVM (m : KVM) : Ent := ⟨m.value, m.version, m.status⟩

def absCopy (s : NodeState) : Copy :=
  ⟨s.lastGc, s.maxVersion, fun k => (AL.lookup k s.kvs).map entOfVV⟩

theorem absCopy_kvs {s : NodeState} {k : Bytes} {v : VV} (h : AL.lookup k s.kvs = some v) :
    (absCopy s).kvs k = some (entOfVV v) :=
  congrArg (Option.map entOfVV) h

/-- abstraction of a node delta; `hz` is the ghost horizon of its sender -/
def absDelta (nd : NodeDelta) (hz : Nat) : Ledger.Delta :=
  ⟨nd.fromExcl, nd.lastGc, fun k => (nd.kvs.find? (fun m => m.key == k)).map entOfKVM, nd.maxVersion, hz⟩

theorem toM_intoStatus (m : StatusM) (now : Nat) : (m.intoStatus now).toM = m := by
  cases m <;> rfl

theorem tomb_iff_scheduled (m : StatusM) : tomb m ↔ m.scheduledForDeletion = true := by
  cases m <;> simp [tomb, StatusM.scheduledForDeletion]

theorem tomb_of_expired {now grace : Nat} {v : VV} (h : expired now grace v = true) : tomb v.status.toM := by
  unfold expired at h
  cases hs : v.status <;> simp_all [Status.timeOfStart, Status.toM, tomb]

theorem applyKvs_lookup (cm now : Nat) (kvs : List KVM) (hnd : (kvs.map (·.key)).Nodup) :
    ∀ (s : NodeState) (k : Bytes),
      AL.lookup k (applyKvs cm now s kvs).1.kvs =
        match kvs.find? (fun m => m.key == k) with
        | none => AL.lookup k s.kvs
        | some kv =>
          if kv.version ≤ cm then AL.lookup k s.kvs
          else if kv.status.scheduledForDeletion = true ∧ kv.version ≤ s.lastGc then AL.lookup k s.kvs
          else match AL.lookup k s.kvs with
            | some old => if old.version ≥ kv.version then some old
                          else some ⟨kv.value, kv.version, kv.status.intoStatus now⟩
            | none => some ⟨kv.value, kv.version, kv.status.intoStatus now⟩ := by
  intro s k
  rw [applyKvs_fst, storeAll_lookup (accepted_keys_nodup hnd), accepted, AL.lookup_map_filter (·.key) _ _ kvs hnd k]
  cases kvs.find? (fun m => m.key == k) with
  | none => rfl
  | some kv => grind

/-- **Refinement (apply).** Whatever the status, a delta that is not rejected is applied
incrementally to the copy the key-value loop starts from: the copy itself, or the wiped copy. -/
theorem absCopy_applyDelta (r : NodeState) (nd : NodeDelta) (now hz : Nat) (r' : NodeState) (st : DeltaStatus)
    (evs : List Event) (hnd : (nd.kvs.map (·.key)).Nodup) (hst : st ≠ .reject)
    (h : r.applyDelta nd now = .ok (r', st, evs)) :
    absCopy r' = applyInc (absCopy (r.applyBase nd)) (absDelta nd hz) := by
  obtain ⟨_, rfl⟩ := (applyDelta_spec h).2.2 hst
  unfold stored
  generalize r.applyBase nd = b
  unfold absCopy applyInc absDelta
  rw [Copy.mk.injEq]
  refine ⟨storeAll_gc _ _, rfl, ?_⟩
  funext k
  dsimp only
  rw [← applyKvs_fst, applyKvs_lookup b.maxVersion now nd.kvs hnd b k]
  cases nd.kvs.find? (fun m => m.key == k) with
  | none => rfl
  | some kv =>
    -- both sides branch on the same conditions: the abstraction goes through them
    simp only [Option.map_some, entOfKVM, tomb_iff_scheduled, apply_ite (Option.map entOfVV)]
    cases AL.lookup k b.kvs <;>
      simp only [Option.map_some, Option.map_none, apply_ite (Option.map entOfVV), entOfVV, toM_intoStatus, ge_iff_le]

theorem absCopy_applyInc (r : NodeState) (nd : NodeDelta) (now hz : Nat) (r' : NodeState) (evs : List Event)
    (hnd : (nd.kvs.map (·.key)).Nodup)
    (h : r.applyDelta nd now = .ok (r', .apply, evs)) :
    absCopy r' = applyInc (absCopy r) (absDelta nd hz) := by
  have hb : r.applyBase nd = r := applyBase_of_not_reset ((applyDelta_spec h).1 ▸ nofun)
  rw [absCopy_applyDelta r nd now hz r' .apply evs hnd nofun h, hb]

theorem absCopy_applyReset (r : NodeState) (nd : NodeDelta) (now hz : Nat) (r' : NodeState) (evs : List Event)
    (hnd : (nd.kvs.map (·.key)).Nodup) (hpos : ∀ kv ∈ nd.kvs, 1 ≤ kv.version)
    (h : r.applyDelta nd now = .ok (r', .applyAfterReset, evs)) :
    absCopy r' = applyReset (absDelta nd hz) := by
  rw [absCopy_applyDelta r nd now hz r' .applyAfterReset evs hnd nofun h, applyBase_of_reset (applyDelta_spec h).1.symm,
    applyReset_eq_applyInc]
  · rfl
  · intro k e he
    obtain ⟨kv, hf, rfl⟩ := Option.map_eq_some_iff.1 he
    exact hpos kv (List.mem_of_find?_eq_some hf)

/-- The copy itself is unchanged, hence its abstraction. -/
theorem absCopy_reject (r : NodeState) (nd : NodeDelta) (now : Nat) (r' : NodeState) (evs : List Event)
    (h : r.applyDelta nd now = .ok (r', .reject, evs)) : r' = r :=
  (applyDelta_spec h).2.1 rfl

theorem absCopy_gcKeys (s : NodeState) (now grace : Nat) (hs : SortedKeys s.kvs) :
    absCopy (s.gcKeys now grace) =
      gcCopy (absCopy s)
        (fun k => match AL.lookup k s.kvs with | some v => expired now grace v | none => false)
        (s.gcKeys now grace).lastGc := by
  unfold absCopy gcCopy
  rw [Copy.mk.injEq]
  refine ⟨rfl, rfl, ?_⟩
  funext k
  simp only [gcKeys]
  rw [AL.lookup_filter_of_nodup hs.nodup]
  cases AL.lookup k s.kvs with
  | none => simp
  | some v => cases hx : expired now grace v <;> simp [hx]

/-! ### the sender side: `senderNodeDelta` refines `mkDelta` -/

open ClusterState (senderNodeDelta)

theorem staleKvs_distinct (s : NodeState) (f : Nat) (hd : DistinctVersions s) :
    ∀ p ∈ s.staleKvs f, ∀ q ∈ s.staleKvs f, p.2.version = q.2.version → p = q :=
  fun p hp q hq => hd p (mem_staleKvs.1 hp).1 q (mem_staleKvs.1 hq).1

/-- Cutting the stale key-values off after `n` is bounding them by the announced max version. -/
theorem mem_take_staleKvs (s : NodeState) (f n : Nat) (b : Bool) (hd : DistinctVersions s) (p : Bytes × VV) :
    p ∈ (s.staleKvs f).take n ↔
      p ∈ s.kvs ∧ f < p.2.version ∧ p.2.version ≤ (senderNodeDelta s f n b).maxVersion := by
  constructor
  · intro hp
    have hst := mem_staleKvs.1 (List.mem_of_mem_take hp)
    exact ⟨hst.1, hst.2, senderNodeDelta_kvsLeMax s f n b (toKVM p) (List.mem_map.2 ⟨p, hp, rfl⟩)⟩
  · rintro ⟨hm, hf, hle⟩
    have hst : p ∈ s.staleKvs f := mem_staleKvs.2 ⟨hm, hf⟩
    rcases senderNodeDelta_max_cases s f n b with ⟨y, hl, e⟩ | ⟨hnil, e⟩
    · -- the announced max version is the version of the last key-value admitted
      obtain ⟨y', hl', rfl⟩ := Option.map_eq_some_iff.1 ((List.getLast?_map ..).symm.trans hl)
      rw [e] at hle
      exact (mem_take_iff_le_last (·.2.version) n (staleKvs_pairwise s f) (staleKvs_distinct s f hd) hl' hst).2 hle
    · -- nothing was admitted: the announced max version is 0, or the copy's when nothing is stale
      rw [e] at hle
      split at hle
      · rename_i hb
        rw [hb.2] at hst
        cases hst
      · omega

/-- **Refinement (sender).** The node delta a sender emits, truncated anywhere, is `mkDelta` of its
copy for the announced range. -/
theorem absDelta_senderNodeDelta (s : NodeState) (f n : Nat) (b : Bool)
    (hs : SortedKeys s.kvs) (hd : DistinctVersions s) :
    absDelta (senderNodeDelta s f n b) (max s.lastGc s.maxVersion) =
      mkDelta (absCopy s) f (senderNodeDelta s f n b).maxVersion := by
  unfold absDelta mkDelta absCopy
  simp only [Ledger.Delta.mk.injEq]
  refine ⟨rfl, rfl, ?_, trivial, trivial⟩
  funext k
  have hfind : ((senderNodeDelta s f n b).kvs.find? (fun m => m.key == k)).map entOfKVM =
      (AL.lookup k ((s.staleKvs f).take n)).map entOfVV := by
    simp only [senderNodeDelta]
    rw [List.find?_map, AL.lookup_eq_find, Option.map_map, Option.map_map]
    rfl
  have htake : ∀ p, p ∈ (s.staleKvs f).take n ↔ p ∈ s.kvs.filter
      (fun p => decide (f < p.2.version ∧ p.2.version ≤ (senderNodeDelta s f n b).maxVersion)) := by
    intro p
    rw [mem_take_staleKvs s f n b hd, List.mem_filter, decide_eq_true_eq]
  rw [hfind, AL.lookup_congr ((staleKvs_keys_nodup s f hs).sublist ((List.take_sublist _ _).map _))
    (hs.nodup.sublist (List.filter_sublist.map _)) htake, AL.lookup_filter_of_nodup hs.nodup]
  cases AL.lookup k s.kvs with
  | none => rfl
  | some v =>
    simp only [Option.map_some, entOfVV, decide_eq_true_eq]
    split <;> rfl

end Chitchat
