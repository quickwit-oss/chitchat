/-
Lemmas/EmitOk.lean — `compute_partial_delta_respecting_mtu` never hits one of its assertions
(`assert!(apply_op(..).is_ok())`, `assert!(item_len <= u16::MAX)`, `assert!(mtu >= 100)`) on a
cluster state whose copies are well formed, for any digest (hostile or not), any budget in
`100 ..= 65 539`, any shuffle order and any compressor. The length check cannot fire below 65 540
(`tryAddOp_ok`); the builder accepts a key-value whose version is above the max version so far, and a
member it has not seen: the loops offer nothing else.
-/
import ChitchatModel.Lemmas.Emit
import ChitchatModel.Lemmas.ClusterWF
namespace Chitchat
open ClusterState NodeState

/-! ### the loops do not fail -/

theorem addKvs_ok {C : Compressor} (kvs : List (Bytes × VV)) (ds : DeltaSerializer) {i : Id}
    {nd : NodeDelta} (hm : ds.mtu ≤ 65539) (hcur : ds.builder.current = some (i, nd))
    (hlt : (nd.maxVersion :: kvs.map (·.2.version)).Pairwise (· < ·)) :
    ∃ ds' hit, addKvs C ds kvs = .ok (ds', hit) ∧ ds'.mtu = ds.mtu ∧
      ds'.builder.existing = ds.builder.existing := by
  induction kvs generalizing ds nd with
  | nil => exact ⟨ds, false, rfl, rfl, rfl⟩
  | cons p rest ih =>
    rw [List.map_cons, List.pairwise_cons] at hlt
    have hb := DeltaBuilder.applyOp_kv hcur (toKVM p)
    rw [if_pos (show nd.maxVersion < (toKVM p).version from hlt.1 _ List.mem_cons_self)] at hb
    rw [addKvs]
    rcases tryAddOp_ok (C := C) hm hb with h | ⟨ds1, h, hm1, hb1⟩
    · rw [h]
      exact ⟨ds, true, rfl, rfl, rfl⟩
    · rw [h]
      obtain ⟨ds', hit, h1, h2, h3⟩ := ih ds1 (hm1 ▸ hm) (by rw [hb1]) hlt.2
      exact ⟨ds', hit, h1, h2.trans hm1, h3.trans (by rw [hb1])⟩

/-- What the member loop needs from the stale members. -/
structure StaleWF (sn : StaleNode) : Prop where
  sorted : SortedKeys sn.state.kvs
  distinct : DistinctVersions sn.state

theorem addNodes_ok {C : Compressor} (sns : List StaleNode) (ds : DeltaSerializer) (hm : ds.mtu ≤ 65539)
    (hwf : ∀ sn ∈ sns, StaleWF sn) (hnd : (sns.map (·.id)).Nodup)
    (hfresh : ∀ sn ∈ sns, sn.id ∉ ds.builder.existing) :
    ∃ ds', addNodes C ds sns = .ok ds' := by
  induction sns generalizing ds with
  | nil => exact ⟨ds, rfl⟩
  | cons sn rest ih =>
    rw [List.map_cons, List.nodup_cons] at hnd
    have hsn := hwf sn List.mem_cons_self
    -- the loop goes on from any serializer that has seen this member and no other new one
    have next : ∀ ds2 : DeltaSerializer, ds2.mtu = ds.mtu →
        ds2.builder.existing = sn.id :: ds.builder.existing → ∃ ds', addNodes C ds2 rest = .ok ds' := by
      intro ds2 hm2 hex
      refine ih ds2 (hm2 ▸ hm) (fun x hx => hwf x (List.mem_cons_of_mem _ hx)) hnd.2 ?_
      intro x hx
      rw [hex, List.mem_cons, not_or]
      exact ⟨fun e => hnd.1 (List.mem_map.2 ⟨x, hx, e⟩), hfresh x (List.mem_cons_of_mem _ hx)⟩
    have hb := ds.builder.applyOp_node sn.id sn.state.lastGc sn.fromExcl
    rw [if_neg (hfresh sn List.mem_cons_self)] at hb
    rw [addNodes]
    rcases tryAddOp_ok (C := C) hm hb with h | ⟨ds1, h, hm1, hb1⟩
    · rw [h]
      exact ⟨ds, rfl⟩
    · rw [h]
      have hcur1 : ds1.builder.current = some (sn.id, ⟨sn.fromExcl, sn.state.lastGc, [], 0⟩) := by rw [hb1]
      -- the stale key-values come in increasing versions, all above `fromExcl ≥ 0`
      have hinc : ((0 : Nat) :: (sn.state.staleKvs sn.fromExcl).map (·.2.version)).Pairwise (· < ·) :=
        List.pairwise_cons.2 ⟨List.forall_mem_map.2 fun q hq => Nat.zero_lt_of_lt (mem_staleKvs.1 hq).2,
          List.pairwise_map.2 (staleKvs_strict _ _ hsn.sorted hsn.distinct)⟩
      cases hst : sn.state.staleKvs sn.fromExcl with
      | nil =>
        have hb3 := DeltaBuilder.applyOp_setMax hcur1 sn.state.maxVersion
        rw [if_pos (Nat.zero_le _)] at hb3
        simp only [addKvs, if_true]
        rcases tryAddOp_ok (C := C) (hm1 ▸ hm) hb3 with h3 | ⟨ds3, h3, hm3, hb3⟩
        · rw [h3]
          exact next ds1 hm1 (by rw [hb1])
        · rw [h3]
          exact next ds3 (hm3.trans hm1) (by rw [hb3, hb1])
      | cons p ps =>
        obtain ⟨ds2, hit, hk, hm2, hex2⟩ :=
          addKvs_ok (C := C) (p :: ps) ds1 (hm1 ▸ hm) hcur1 (hst ▸ hinc)
        cases hit with
        | true => exact ⟨ds2, by simp only [hk]⟩
        | false =>
          simp only [hk, reduceCtorEq, if_false]
          exact next ds2 (hm2.trans hm1) (by rw [hex2, hb1])

/-! ### the stale members of a well-formed cluster state -/

theorem staleNodes_ids_nodup {cs : ClusterState} (hcs : WFCluster cs) (digest : Digest) (sched : List Id) :
    ((staleNodes cs digest sched).map (·.id)).Nodup :=
  (hcs.sorted.nodup idLt_strictTotal).sublist (staleNodes_ids_sublist cs digest sched)

theorem staleNode_eq_of_id {cs : ClusterState} (hcs : WFCluster cs) {digest : Digest} {sched : List Id}
    {a b : StaleNode} (ha : a ∈ staleNodes cs digest sched) (hb : b ∈ staleNodes cs digest sched)
    (hid : a.id = b.id) : a = b := by
  have h1 := AL.find_of_mem_nodup (staleNodes_ids_nodup hcs digest sched) ha
  have h2 := AL.find_of_mem_nodup (staleNodes_ids_nodup hcs digest sched) hb
  rw [hid, h2] at h1
  exact (Option.some.inj h1).symm

/-- **No assertion of the sender can fire.** -/
theorem computeDelta_ok (C : Compressor) (cs : ClusterState) (hcs : WFCluster cs) (digest : Digest)
    (mtu : Nat) (h100 : 100 ≤ mtu) (hmax : mtu ≤ 65539) (sched order : List Id) :
    ∃ delta, computeDelta C cs digest mtu sched order = .ok delta := by
  have hnd : ((sortStale order (staleNodes cs digest sched)).map (·.id)).Nodup :=
    ((sortStale_perm order _).map _).nodup_iff.2 (staleNodes_ids_nodup hcs digest sched)
  have hwf : ∀ sn ∈ sortStale order (staleNodes cs digest sched), StaleWF sn := by
    intro sn hsn
    have := hcs.copies _ (mem_staleNodes (mem_sortStale.1 hsn)).1
    exact ⟨this.sorted, this.distinct⟩
  obtain ⟨ds', hds'⟩ := addNodes_ok (C := C) _ { mtu := mtu, writer := { threshold := min 16384 mtu } }
    hmax hwf hnd (fun _ _ => List.not_mem_nil)
  exact ⟨_, computeDelta_eq_ok.2 ⟨h100, ds', hds', rfl⟩⟩

end Chitchat
