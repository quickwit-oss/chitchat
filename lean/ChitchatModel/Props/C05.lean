/-
Props/C05.lean — single writer: gossip never changes a node's own namespace.
-/
import ChitchatModel.Lemmas.Message
namespace Chitchat
open NodeState

/-- **C05 (the owner refuses every delta about itself).** -/
theorem C05_owner_rejects (o : NodeState) (nd : NodeDelta) (h : nd.NotAhead o) :
    o.checkDeltaStatus nd = .reject :=
  checkDeltaStatus_eq_reject_of_notAhead h

theorem C05_owner_unchanged (o : NodeState) (nd : NodeDelta) (now : Nat) (h : nd.NotAhead o) :
    o.applyDelta nd now = .ok (o, .reject, []) :=
  applyDelta_reject (C05_owner_rejects o nd h)

/-- **C05 (deltas).** Applying a whole delta leaves the local member's copy exactly as it was, as
long as the node delta addressed to it (if any) is not ahead of it. Members are distinct in every
decoded delta. -/
theorem C05_delta_keeps_self (now : Nat) (nds : List (Id × NodeDelta)) (self : Id)
    (cs cs' : ClusterState) (flag : Bool) (evs : List (Id × Event)) (o : NodeState)
    (ho : cs.nodeState self = some o)
    (hnot : ∀ p ∈ nds, p.1 = self → p.2.NotAhead o)
    (h : ClusterState.applyDelta now cs nds = .ok (cs', flag, evs)) :
    cs'.nodeState self = some o := by
  refine ClusterState.applyDelta_invariant_at self (· = some o) ?_ h ho
  intro nd s s' st ev hm hP ha _
  cases hP
  rw [C05_owner_unchanged o nd now (hnot _ hm rfl)] at ha
  cases ha
  rfl

/-- **C05 (heartbeat reports).** Recording the heartbeats of a digest never touches the local
member's copy, not even when the digest (maliciously or stalely) mentions the local member. -/
theorem C05_report_keeps_self (n : Node) (i : Id) (hb now : Nat) :
    (n.reportHeartbeat i hb now).cs.nodeState n.cfg.selfId = n.cs.nodeState n.cfg.selfId ∧
    (n.reportHeartbeat i hb now).cfg = n.cfg :=
  ⟨(Node.nodeState_reportHeartbeat n i hb now _).resolve_right fun h => h.2.1 rfl,
    Node.cfg_reportHeartbeat n i hb now⟩

theorem C05_digest_keeps_self (n : Node) (d : Digest) (now : Nat) :
    (n.reportHeartbeatsInDigest d now).cs.nodeState n.cfg.selfId = n.cs.nodeState n.cfg.selfId ∧
    (n.reportHeartbeatsInDigest d now).cfg = n.cfg :=
  ⟨(Node.nodeState_reportHeartbeatsInDigest n d now _).resolve_right fun h => h.2.1 rfl,
    Node.cfg_reportHeartbeatsInDigest n d now⟩

/-- **C05 (heartbeat).** The only thing processing a message does to the local member is the
heartbeat tick. -/
theorem C05_tick (n : Node) (o : NodeState) (ho : n.cs.nodeState n.cfg.selfId = some o) :
    n.updateSelfHeartbeat.cs.nodeState n.cfg.selfId = some { o with heartbeat := o.heartbeat + 1 } := by
  rw [Node.nodeState_updateSelfHeartbeat, if_pos rfl, Node.selfState, ho]
  rfl

/-- **C05 (ACK).** Processing an ACK whose node delta for the local member (if any) is not ahead of
the owner changes the local member's copy by the heartbeat tick only: same key-values, same
versions, same max version, same GC watermark. -/
theorem C05_ack_keeps_namespace (C : Compressor) (n n' : Node) (delta : Delta) (now : Nat) (order : List Id)
    (fx : Effects) (o : NodeState) (ho : n.cs.nodeState n.cfg.selfId = some o)
    (hnot : ∀ p ∈ delta.nodeDeltas, p.1 = n.cfg.selfId → p.2.NotAhead o)
    (h : n.processMessage C (.ack delta) now order = .ok (n', fx)) :
    n'.cs.nodeState n.cfg.selfId = some { o with heartbeat := o.heartbeat + 1 } := by
  obtain ⟨cs', reset, evs, ha, rfl, _⟩ := Node.processMessage_ack_eq_ok.1 h
  exact C05_delta_keeps_self now delta.nodeDeltas n.cfg.selfId _ cs' reset evs _ (C05_tick n o ho) hnot ha

/-! ### Non-vacuity -/
example : (⟨2, 3, [⟨[1], [2], 3, .set⟩], 3⟩ : NodeDelta).NotAhead ⟨9, [([1], ⟨[2], 3, .set⟩)], 4, 0⟩ := by
  unfold NodeDelta.NotAhead; decide

end Chitchat
