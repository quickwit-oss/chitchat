/-
Props/C11.lean — liveness needs fresh evidence; steady heartbeats are never flagged.
-/
import ChitchatModel.Lemmas.Message
import ChitchatModel.Props.C10
namespace Chitchat

/-- **C11 (stale heartbeats are no evidence).** A heartbeat that is not strictly above the one the
node already knows for that member (known and non-zero) changes nothing: not the recorded heartbeat,
not a single key-value, not the failure detector (sampling window, live set, dead set), not the
memory of garbage collected members. This holds whoever relayed it and however often. -/
theorem C11_stale_is_noop (n : Node) (i : Id) (hb now : Nat) (s : NodeState)
    (hs : n.cs.nodeState i = some s) (h0 : s.heartbeat ≠ 0) (hle : hb ≤ s.heartbeat) :
    (∀ j, (n.reportHeartbeat i hb now).cs.nodeState j = n.cs.nodeState j) ∧
    (n.reportHeartbeat i hb now).fd = n.fd ∧
    (n.reportHeartbeat i hb now).cs.gcMemory = n.cs.gcMemory := by
  rcases Node.reportHeartbeat_cases n i hb now with e | ⟨t, _, ht, e⟩
  · rw [e]; exact ⟨fun _ => rfl, rfl, rfl⟩
  · rw [Node.reportBase_of_some n i hb hs, hs] at ht
    cases ht
    have hsnd : ¬ (s.trySetHeartbeat hb).2 = true := fun h =>
      Nat.not_lt.2 hle ((NodeState.trySetHeartbeat_snd s hb).1 h).2
    rw [e, Node.reportBase_of_some n i hb hs, NodeState.trySetHeartbeat_fst, Nat.max_eq_left hle, if_neg hsnd]
    refine ⟨fun j => ?_, rfl, rfl⟩
    rw [ClusterState.nodeState_setNode]
    by_cases hj : j = i
    · rw [if_pos hj, hj, hs]
    · rw [if_neg hj]

/-- **C11 (the window only sees fresh values).** Whenever `report_heartbeat` touches the failure
detector at all, the reported value was strictly above a previously known, non-zero heartbeat of
that copy: equal, lower, replayed or first-ever values never reach the sampling window. -/
theorem C11_window_only_on_fresh (n : Node) (i : Id) (hb now : Nat)
    (hchg : (n.reportHeartbeat i hb now).fd ≠ n.fd) :
    ∃ s, (n.reportBase i hb).nodeState i = some s ∧ s.heartbeat ≠ 0 ∧ s.heartbeat < hb := by
  rcases Node.reportHeartbeat_cases n i hb now with e | ⟨s, _, hs, e⟩
  · exact absurd (congrArg Node.fd e) hchg
  · refine ⟨s, hs, (NodeState.trySetHeartbeat_snd s hb).1 (Decidable.by_contra fun h => hchg ?_)⟩
    rw [e, if_neg h]

/-- **C11 (two strictly increasing observations before live).** One report leaves the window without
any interval, hence not alive (`C10_needs_two`): a member can be reported live only after *two*
reports to the failure detector, i.e. (by `C11_window_only_on_fresh`) after three heartbeat values
`h0 < h1 < h2` were seen for the copy — stronger than the two the property asks for. -/
theorem C11_one_report_not_alive (cfg : FDConfig) (t now : Nat) :
    (({} : Window).report cfg t).alive cfg now = false :=
  C10_needs_two cfg _ now (Window.report_first cfg t)

/-- **C11 (steady heartbeats stay alive).** If the stored intervals all lie at or above `a`, the last
fresh heartbeat is at most `b` old, and `phi_threshold ≥ b / min(a, initial_interval)`, the member
is alive. -/
theorem C11_steady_alive (cfg : FDConfig) (w : Window) (now t a b : Nat)
    (hne : w.intervals ≠ []) (hlast : w.last = some t)
    (hlo : ∀ x ∈ w.intervals, a ≤ x)
    (helapsed : now - t ≤ b)
    (htheta : b * cfg.thetaDen ≤ cfg.thetaNum * min a cfg.initialInterval) :
    w.alive cfg now = true := by
  rw [Window.alive_iff]
  refine ⟨hne, t, hlast, phi_le_of_mean_ge (m := min a cfg.initialInterval) ?_
    (Nat.le_trans (Nat.mul_le_mul_right _ helapsed) htheta)⟩
  -- the smoothed mean is at least `min a initialInterval`
  have hsum := sum_ge_of_all_ge w.intervals _ fun x hx =>
    Nat.le_trans (Nat.min_le_left a cfg.initialInterval) (hlo x hx)
  rw [Nat.add_mul]
  exact Nat.add_le_add hsum (Nat.mul_le_mul_left 5 (Nat.min_le_right _ _))

/-- The reset of a copy keeps the heartbeat (F-5 repair), so `C11_stale_is_noop` keeps protecting a
copy across gossip resets; with the unrepaired `reset_node` the heartbeat became 0 and the next
stale value was accepted. -/
theorem C11_reset_keeps_heartbeat (s : NodeState) (g : Nat) :
    (s.resetNode g).heartbeat = s.heartbeat ∧ (s.resetNodeUnrepaired g).heartbeat = 0 := ⟨rfl, rfl⟩

/-- **C11 (digest heartbeats feed the detector).** Every heartbeat carried by a digest (distinct
members) reaches the node's copy of that member — the copy exists afterwards with a heartbeat at
least as high — except for the local member itself and for a member that was removed with a
remembered heartbeat at least as high (C12's guard). No entry is lost because of another entry. -/
theorem C11_digest_heartbeats_reach (n : Node) (d : Digest) (now : Nat) (hnd : (d.map (·.1)).Nodup)
    (p : Id × NodeDigest) (hp : p ∈ d) (hself : p.1 ≠ n.cfg.selfId) (hnb : ¬ n.blocked p.1 p.2.heartbeat) :
    p.2.heartbeat ≤ (n.reportHeartbeatsInDigest d now).hbOf p.1 :=
  hbOf_reportHeartbeatsInDigest_of_mem n now hnd hp hself hnb

/-- Copies' heartbeats never decrease while a digest is processed. -/
theorem C11_digest_heartbeats_monotone (n : Node) (d : Digest) (now : Nat) (j : Id) :
    n.hbOf j ≤ (n.reportHeartbeatsInDigest d now).hbOf j :=
  hbOf_reportHeartbeatsInDigest_mono n d now j

/-! ### Non-vacuity -/
example : (⟨[4, 5, 4], some 100⟩ : Window).alive ⟨8, 1, 1000, 10, 5, 100⟩ 105 = true := by decide

end Chitchat
