/-
Props/C13.lean — the live-members watch channel reflects the evaluated membership.
-/
import ChitchatModel.Lemmas.FD
namespace Chitchat

/-! ### maps built by folding `AL.insert` over a list of keys -/

def foldInsert {ι β : Type} [DecidableEq ι] (lt : ι → ι → Bool) (f : ι → Option β) (l : List ι)
    (acc : List (ι × β)) : List (ι × β) :=
  l.foldl (fun acc i => match f i with | some v => AL.insert lt i v acc | none => acc) acc

theorem lookup_foldInsert {ι β : Type} [DecidableEq ι] (lt : ι → ι → Bool) (f : ι → Option β) (l : List ι)
    (acc : List (ι × β)) (j : ι) :
    AL.lookup j (foldInsert lt f l acc) = if j ∈ l then (f j).or (AL.lookup j acc) else AL.lookup j acc := by
  unfold foldInsert
  induction l generalizing acc with
  | nil => simp
  | cons a t ih =>
    rw [List.foldl_cons, ih]
    by_cases hja : j = a
    · subst hja
      cases hf : f j <;> simp [AL.lookup_insert_self]
    · have hstep : AL.lookup j (match f a with | some v => AL.insert lt a v acc | none => acc) = AL.lookup j acc := by
        cases f a with
        | none => rfl
        | some v => exact AL.lookup_insert_ne lt a j v acc hja
      simp only [List.mem_cons, hja, false_or, hstep]

theorem mem_foldInsert {ι β : Type} [DecidableEq ι] (lt : ι → ι → Bool) (f : ι → Option β) (l : List ι)
    (e : ι × β) (h : e ∈ foldInsert lt f l []) : e.1 ∈ l ∧ f e.1 = some e.2 := by
  refine List.foldlRecOn (motive := fun m => e ∈ m → e.1 ∈ l ∧ f e.1 = some e.2) l _
    (fun h => absurd h List.not_mem_nil) (fun m ih a ha hm => ?_) h
  cases hf : f a with
  | none => rw [hf] at hm; exact ih hm
  | some v =>
    rw [hf] at hm
    rcases AL.eq_or_mem_of_mem_insert hm with rfl | hm
    · exact ⟨ha, hf⟩
    · exact ih hm

/-! ### the two maps of the watch step -/

theorem currentLive_eq (n : Node) :
    n.currentLive = foldInsert Id.lt (fun i => (n.cs.nodeState i).map (·.maxVersion)) n.liveNodes [] := by
  unfold Node.currentLive foldInsert
  congr 1
  funext acc i
  cases h : n.cs.nodeState i <;> simp [h]

theorem filteredLive_eq (n : Node) :
    n.filteredLive = foldInsert Id.lt (fun i => (n.cs.nodeState i).filter n.passes) (n.currentLive.map (·.1)) [] := by
  unfold Node.filteredLive foldInsert
  rw [List.foldl_map]
  congr 1
  funext acc p
  cases h : n.cs.nodeState p.1 with
  | none => simp [h]
  | some s => by_cases hp : n.passes s = true <;> simp [h, Option.filter, hp]

theorem lookup_currentLive (n : Node) (i : Id) :
    AL.lookup i n.currentLive = if i ∈ n.liveNodes then (n.cs.nodeState i).map (·.maxVersion) else none := by
  rw [currentLive_eq, lookup_foldInsert, AL.lookup_nil, Option.or_none]

theorem mem_filteredLive (n : Node) (i : Id) (s : NodeState) (h : (i, s) ∈ n.filteredLive) :
    n.cs.nodeState i = some s ∧ n.passes s = true ∧ i ∈ n.liveNodes ∧
      AL.lookup i n.currentLive = some s.maxVersion := by
  rw [filteredLive_eq] at h
  obtain ⟨hkey, hf⟩ := mem_foldInsert _ _ _ _ h
  obtain ⟨hs, hp⟩ := Option.filter_eq_some_iff.1 hf
  -- `i` is a key of `currentLive`, so it is live
  have hk := (AL.lookup_isSome_iff i n.currentLive).2 hkey
  rw [lookup_currentLive] at hk ⊢
  split at hk
  · exact ⟨hs, hp, ‹_›, by rw [if_pos ‹_›, hs]; rfl⟩
  · cases hk

/-- The watch value agrees with the recorded map: each snapshot carries the recorded max version. -/
def Node.WatchInv (n : Node) : Prop :=
  ∀ p ∈ n.watch, AL.lookup p.1 n.previousLive = some p.2.maxVersion

/-- **C13 (invariant).** The watch step keeps `WatchInv`; every other operation of the node leaves
`watch` and `previousLive` alone. -/
theorem C13_publishStep_inv (n : Node) (h : n.WatchInv) : n.publishStep.WatchInv := by
  unfold Node.publishStep
  split
  · exact fun p hp => (mem_filteredLive n p.1 p.2 hp).2.2.2
  · exact h

/-- **C13 (value exact).** After every evaluation the value held by the channel lists exactly the
live members passing the predicate (same member set as `filteredLive`), and each snapshot carries
that member's *current* max version. -/
theorem C13_value_exact (n : Node) (h : n.WatchInv) :
    n.publishStep.watch.map (·.1) = n.publishStep.filteredLive.map (·.1) ∧
    ∀ p ∈ n.publishStep.watch, ∃ c, n.publishStep.cs.nodeState p.1 = some c ∧
      p.2.maxVersion = c.maxVersion ∧ n.passes c = true ∧ p.1 ∈ n.liveNodes := by
  obtain ⟨hprev, hkeys, hcs, hcfg, hfd⟩ := n.publishStep_spec
  have hfl : n.publishStep.filteredLive = n.filteredLive := by
    unfold Node.filteredLive Node.currentLive Node.liveNodes Node.passes
    rw [hcs, hcfg, hfd]
  rw [hfl, hcs]
  refine ⟨hkeys, fun p hp => ?_⟩
  -- `p.1` is a key of `filteredLive`: a live member whose copy `q.2` passes …
  obtain ⟨q, hq, hq1⟩ := List.mem_map.1 (hkeys ▸ List.mem_map.2 ⟨p, hp, rfl⟩ : p.1 ∈ n.filteredLive.map (·.1))
  obtain ⟨a1, a2, a3, a4⟩ := mem_filteredLive n q.1 q.2 hq
  rw [hq1] at a1 a3 a4
  -- … and the max version recorded for `p.1` is the one of the snapshot (`WatchInv` after the step)
  have hv := C13_publishStep_inv n h p hp
  rw [hprev, a4] at hv
  exact ⟨q.2, a1, (Option.some.inj hv).symm, a2, a3⟩

/-- **C13 (publish whenever something changed).** A new value is published whenever the live set or
some live member's max version differs from what was recorded at the previous evaluation. -/
theorem C13_publish_if (n : Node) (h : n.previousLive ≠ n.currentLive) :
    n.publishStep.publishes = n.publishes + 1 ∧ n.publishStep.watch = n.filteredLive ∧
    n.publishStep.previousLive = n.currentLive := by
  unfold Node.publishStep
  rw [if_pos (Or.inl h)]
  exact ⟨rfl, rfl, rfl⟩

/-- **C13 (predicate-only change, F-6).** If only the predicate outcome changed (same recorded
versions) the repaired step still publishes, while the unrepaired one keeps the stale value. -/
theorem C13_publish_on_predicate_change (n : Node) (hsame : n.previousLive = n.currentLive)
    (hdiff : n.filteredLive.map (·.1) ≠ n.watch.map (·.1)) :
    n.publishStep.watch = n.filteredLive ∧ n.publishStepUnrepaired.watch = n.watch := by
  unfold Node.publishStep Node.publishStepUnrepaired
  rw [if_pos (Or.inr hdiff), if_neg (fun h => h hsame)]
  exact ⟨rfl, rfl⟩

/-! ### Non-vacuity -/
example : ({ cfg := ⟨⟨[1], 0, .v4 [127, 0, 0, 1] 1⟩, [99], 10, ⟨8, 1, 10, 10, 5, 100⟩, none, 4⟩ } : Node).WatchInv :=
  fun _ hp => absurd hp List.not_mem_nil

end Chitchat
