/-
Props/C08.lean — the wire format round-trips exactly and announces its exact length.
All statements hold for **every** sound compressor (`Compressor.Sound`), every block threshold in
`1..65535` and with arbitrary bytes following the message.
-/
import ChitchatModel.Lemmas.Stream
import ChitchatModel.Lemmas.Builder
import ChitchatModel.Lemmas.AL
namespace Chitchat

/-- What "a message a node can emit" means for a delta. -/
structure Delta.WFWire (d : Delta) : Prop where
  ids : ∀ p ∈ d.nodeDeltas, WFId p.1
  emittable : ∀ p ∈ d.nodeDeltas, p.2.Emittable
  nodup : (d.nodeDeltas.map (·.1)).Nodup
  fields : ∀ p ∈ d.nodeDeltas, p.2.fromExcl < two64 ∧ p.2.lastGc < two64 ∧ p.2.maxVersion < two64
  kvs : ∀ p ∈ d.nodeDeltas, ∀ kv ∈ p.2.kvs, WFKVM kv

theorem Delta.WFWire.ops_wf {d : Delta} (h : d.WFWire) : ∀ op ∈ d.ops, WFOp op := by
  intro op hop
  simp only [Delta.ops, List.mem_flatten, List.mem_map] at hop
  obtain ⟨_, ⟨p, hp, rfl⟩, hop⟩ := hop
  have hf := h.fields p hp
  simp only [nodeDeltaOps, List.mem_append, List.mem_singleton, List.mem_map] at hop
  rcases hop with (rfl | ⟨kv, hkv, rfl⟩) | hop
  · exact .node _ _ _ (h.ids p hp) hf.2.1 hf.1
  · exact .kv _ (h.kvs p hp kv hkv)
  · split at hop
    · cases List.mem_singleton.1 hop
      exact .setMax _ hf.2.2
    · cases hop

/-- **C08 (primitives).** -/
theorem C08_roundtrip_u16 (n : Nat) (h : n < 65536) (r : Bytes) : decU16 (u16le n ++ r) = some (n, r) :=
  decU16_u16le h r

theorem C08_roundtrip_u64 (n : Nat) (h : n < two64) (r : Bytes) : decU64 (u64le n ++ r) = some (n, r) :=
  decU64_u64le h r

theorem C08_roundtrip_string (s r : Bytes) (h : WFStr s) : decStr (encStr s ++ r) = some (s, r) :=
  decStr_encStr h r

theorem C08_roundtrip_addr (a : Addr) (r : Bytes) (h : WFAddr a) : decAddr (encAddr a ++ r) = some (a, r) :=
  decAddr_encAddr h r

theorem C08_roundtrip_id (i : Id) (r : Bytes) (h : WFId i) : decId (encId i ++ r) = some (i, r) :=
  decId_encId h r

theorem C08_roundtrip_nodeDigest (d : NodeDigest) (r : Bytes) (h : WFNodeDigest d) :
    decNodeDigest (encNodeDigest d ++ r) = some (d, r) := decNodeDigest_encNodeDigest h r

theorem C08_roundtrip_op (op : DeltaOp) (r : Bytes) (h : WFOp op) : decOp (encOp op ++ r) = some (op, r) :=
  decOp_encOp h r

theorem C08_len_op (op : DeltaOp) (h : WFOp op) : (encOp op).length = opLen op := encOp_length h

/-- **C08 (block stream).** Whatever the compressor decides per block (compressed, stored
uncompressed, several blocks), the stream decodes to exactly the bytes appended, and trailing bytes
are left alone. -/
theorem C08_roundtrip_stream (C : Compressor) (hC : C.Sound) (thr : Nat) (h0 : 0 < thr) (h1 : thr ≤ 65535)
    (items : List Bytes) (rest : Bytes) (fuel : Nat) :
    let w := items.foldl (fun w it => w.append C it) ({ threshold := thr } : Writer)
    (w.finish C).length < fuel →
    decBlocks C fuel [] (w.finish C ++ rest) = some (items.flatten, rest) := by
  intro w hf
  obtain ⟨hinv, hle, hthr⟩ := WInv.appendAll hC items { threshold := thr } [] (WInv.init C thr h0 h1)
    (Nat.zero_le _)
  simp only [List.nil_append] at hinv
  exact decBlocks_finish hC hinv (by rw [hthr]; exact hle) rest fuel hf

/-- **C08 (delta).** An emittable delta, encoded with any threshold, decodes back to the same node
deltas, consumes exactly its own bytes and records exactly the number of bytes that were written. -/
theorem C08_roundtrip_delta (C : Compressor) (hC : C.Sound) (thr : Nat) (h0 : 0 < thr) (h1 : thr ≤ 65535)
    (d : Delta) (hwf : d.WFWire) (rest : Bytes) :
    decDelta C (encDeltaPayload C thr d ++ rest) =
      some ({ nodeDeltas := d.nodeDeltas, serializedLen := (encDeltaPayload C thr d).length }, rest) := by
  have hstream : decBlocks C ((encDeltaPayload C thr d ++ rest).length + 1) []
      (encDeltaPayload C thr d ++ rest) = some ((d.ops.map encOp).flatten, rest) := by
    have := C08_roundtrip_stream C hC thr h0 h1 (d.ops.map encOp) rest
      ((encDeltaPayload C thr d ++ rest).length + 1)
    simp only [List.foldl_map] at this
    exact this (by rw [List.length_append]; exact Nat.lt_succ_of_le (Nat.le_add_right _ _))
  obtain ⟨b, hb, hall⟩ := applyOps_delta_ops d.nodeDeltas hwf.emittable hwf.nodup {} (fun _ _ h => nomatch h)
  have hfin := b.finish_nodeDeltas (encDeltaPayload C thr d).length
  rw [hall] at hfin
  simp only [decDelta, hstream, decOps_encOps d.ops hwf.ops_wf _ (Nat.le_refl _),
    show DeltaBuilder.applyOps {} d.ops = some b from hb]
  -- the recorded length is the payload's; the node deltas are those of `hfin`
  rw [List.length_append, Nat.add_sub_cancel]
  exact congrArg (fun nds => some ((⟨nds, _⟩ : Delta), rest)) hfin

theorem encDelta_spec {C : Compressor} {d : Delta} {p : Bytes} (h : encDelta C d = .ok p) :
    p = encDeltaPayload C 16384 d ∧ p.length = d.serializedLen := by
  unfold encDelta at h
  split at h
  · cases h; exact ⟨rfl, ‹_›⟩
  · cases h

/-- **C08 (announced length of a delta).** A delta produced by the `DeltaSerializer` (or by the
decoder) and then sent re-encodes to exactly the length it announces: `Delta::serialize`'s
`assert_eq!` cannot fire, for any mtu, because the serializer's block threshold `min 16384 mtu`
and the one used for sending (`16384`) cut the same blocks whenever the payload fits the mtu…
Here: the recorded length *is* the encoded length, so the message length is announced exactly. -/
theorem C08_len_delta (C : Compressor) (d : Delta) (p : Bytes) (h : encDelta C d = .ok p) :
    p.length = d.serializedLen := (encDelta_spec h).2

theorem decDelta_encDelta {C : Compressor} (hC : C.Sound) {d : Delta} (hwf : d.WFWire) {p : Bytes}
    (h : encDelta C d = .ok p) (rest : Bytes) :
    decDelta C (p ++ rest) = some (d, rest) ∧ p.length = d.serializedLen := by
  obtain ⟨rfl, hlen⟩ := encDelta_spec h
  have hrt := C08_roundtrip_delta C hC 16384 (by decide) (by decide) d hwf rest
  rw [hlen] at hrt
  exact ⟨hrt, hlen⟩

/-! ### digests -/

def insertAll (acc : Digest) (d : Digest) : Digest := d.foldl (fun a p => AL.insert Id.lt p.1 p.2 a) acc

structure Digest.WFWire (d : Digest) : Prop where
  ids : ∀ p ∈ d, WFId p.1
  vals : ∀ p ∈ d, WFNodeDigest p.2
  count : d.length ≤ 65535

theorem decDigestEntries_encDigestEntries (d : Digest) (h1 : ∀ p ∈ d, WFId p.1) (h2 : ∀ p ∈ d, WFNodeDigest p.2)
    (acc : Digest) (rest : Bytes) :
    decDigestEntries d.length acc (encDigestEntries d ++ rest) = some (insertAll acc d, rest) := by
  induction d generalizing acc with
  | nil => simp [decDigestEntries, encDigestEntries, insertAll]
  | cons p t ih =>
    simp [decDigestEntries, encDigestEntries, decId_encId (h1 p List.mem_cons_self),
      decNodeDigest_encNodeDigest (h2 p List.mem_cons_self), insertAll,
      ih (fun q hq => h1 q (List.mem_cons_of_mem _ hq)) (fun q hq => h2 q (List.mem_cons_of_mem _ hq))]

/-- **C08 (digest).** A digest decodes back to the same map (same entry for every member). -/
theorem C08_roundtrip_digest (d : Digest) (h : d.WFWire) (hn : (d.map (·.1)).Nodup) (rest : Bytes) :
    ∃ d', decDigest (encDigest d ++ rest) = some (d', rest) ∧ ∀ i, AL.lookup i d' = AL.lookup i d := by
  have hl : d.length < 65536 := Nat.lt_succ_of_le h.count
  refine ⟨insertAll [] d, ?_, fun i => ?_⟩
  · simp [decDigest, encDigest, Nat.mod_eq_of_lt hl, decU16_u16le hl,
      decDigestEntries_encDigestEntries d h.ids h.vals]
  · rw [insertAll, AL.lookup_foldl_insert Id.lt hn, AL.lookup_nil, Option.or_none]

theorem encDigestEntries_length (d : Digest) (h1 : ∀ p ∈ d, WFId p.1) :
    (encDigestEntries d).length = (d.map (fun p => idLen p.1 + 24)).sum := by
  induction d with
  | nil => rfl
  | cons p t ih =>
    obtain ⟨i, nd⟩ := p
    simp only [encDigestEntries, List.length_append, List.map_cons, List.sum_cons,
      encId_length (h1 (i, nd) List.mem_cons_self)]
    rw [ih (fun q hq => h1 q (List.mem_cons_of_mem _ hq))]
    simp [encNodeDigest]

/-- **C08 (announced length of a digest).** -/
theorem C08_len_digest (d : Digest) (h : ∀ p ∈ d, WFId p.1) : (encDigest d).length = digestLen d := by
  unfold encDigest digestLen
  simp only [List.length_append, u16le_length, encDigestEntries_length d h]

/-! ### messages -/

/-- **C08 (SYN).** -/
theorem C08_roundtrip_syn (C : Compressor) (cid : Bytes) (d : Digest) (hc : WFStr cid) (hd : d.WFWire)
    (hn : (d.map (·.1)).Nodup) (rest : Bytes) :
    ∃ d', decMsg C (msgHeader 0 ++ encDigest d ++ encStr cid ++ rest) = some (.syn cid d', rest) ∧
      ∀ i, AL.lookup i d' = AL.lookup i d := by
  obtain ⟨d', hdec, hlook⟩ := C08_roundtrip_digest d hd hn (encStr cid ++ rest)
  exact ⟨d', by simp [msgHeader, decMsg, hdec, decStr_encStr hc], hlook⟩

/-- **C08 (ACK).** An ACK a node can emit decodes to an equal message, consuming exactly its bytes,
and its length is the announced one. -/
theorem C08_roundtrip_ack (C : Compressor) (hC : C.Sound) (delta : Delta) (hwf : delta.WFWire) (b rest : Bytes)
    (henc : encMsg C (.ack delta) = .ok b) :
    decMsg C (b ++ rest) = some (.ack delta, rest) ∧ b.length = msgLen (.ack delta) := by
  simp only [encMsg] at henc
  split at henc
  · cases henc
    obtain ⟨hrt, hlen⟩ := decDelta_encDelta hC hwf ‹_› rest
    refine ⟨by simp [msgHeader, decMsg, hrt], ?_⟩
    rw [List.length_append, hlen]
    rfl
  · cases henc

/-- **C08 (SYN-ACK).** -/
theorem C08_roundtrip_synack (C : Compressor) (hC : C.Sound) (d : Digest) (delta : Delta)
    (hd : d.WFWire) (hn : (d.map (·.1)).Nodup) (hwf : delta.WFWire) (b rest : Bytes)
    (henc : encMsg C (.synAck d delta) = .ok b) :
    (∃ d', decMsg C (b ++ rest) = some (.synAck d' delta, rest) ∧ ∀ i, AL.lookup i d' = AL.lookup i d) ∧
    b.length = msgLen (.synAck d delta) := by
  simp only [encMsg] at henc
  split at henc
  · cases henc
    rename_i p hp
    obtain ⟨hrt, hlen⟩ := decDelta_encDelta hC hwf hp rest
    obtain ⟨d', hdec, hlook⟩ := C08_roundtrip_digest d hd hn (p ++ rest)
    refine ⟨⟨d', by simp [msgHeader, decMsg, hdec, hrt], hlook⟩, ?_⟩
    rw [List.length_append, List.length_append, hlen, C08_len_digest d hd.ids]
    rfl
  · cases henc

/-- **C08 (BadCluster).** -/
theorem C08_roundtrip_badcluster (C : Compressor) (rest : Bytes) :
    decMsg C (msgHeader 3 ++ rest) = some (.badCluster, rest) := by
  simp [msgHeader, decMsg]

/-! ### Non-vacuity -/
example : WFStr [0xC3, 0xA9, 0x61] := ⟨by decide, by decide⟩

example : (⟨0, 2, [⟨[1], [2], 1, .set⟩, ⟨[3], [], 4, .delete⟩], 4⟩ : NodeDelta).Emittable :=
  ⟨by decide, by decide, by intro kv h; simp at h; rw [← h]⟩

end Chitchat
