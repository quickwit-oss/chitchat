/-
Props/C03.lean — integrity: copies hold only what the owner wrote and never run ahead.

`XReach false σ`: σ is reachable by ANY interleaving of owner writes, tombstone GC on any copy at any
time, copies being created and removed, deltas being computed from any copy for any digest and any
truncation point, any delta ever computed being delivered to any copy or to the owner any number of
times in any order (loss, duplication, reordering, delay, relays through stale peers, late joiners) —
including deliveries that match the KF-1 pattern — and honest external catch-ups from any copy or
from the owner. Every ChitchatId is used by one incarnation.
-/
import ChitchatModel.Lemmas.SystemInv
namespace Chitchat
open NodeState Ledger ClusterState

/-- **C03 (integrity).** In every reachable state, every entry of every replica is exactly the
owner's write at that version (same key, value, deleted/TTL status), and no replica's max version or
GC watermark exceeds the owner's max version. -/
theorem C03_integrity (σ : XSys) (h : XReach false σ) (r : NodeState) (hr : r ∈ σ.replicas) :
    (∀ k vv, AL.lookup k r.kvs = some vv →
        1 ≤ vv.version ∧ σ.H[vv.version - 1]? = some ⟨k, vv.value, vv.status.toM⟩) ∧
    r.maxVersion ≤ σ.owner.maxVersion ∧ r.lastGc ≤ σ.owner.maxVersion := by
  have hinv := xinv_reach false false id σ h
  have hw := hinv.repInvW r hr
  rw [hinv.ownerFull]
  exact ⟨fun k vv hl => hw.i1 k (entOfVV vv) (absCopy_kvs hl), hw.i2.1, hw.i2.2⟩

/-- The owner's own copy is always the complete ledger frontier. -/
theorem C03_owner_is_frontier (σ : XSys) (h : XReach false σ) : σ.owner.maxVersion = σ.H.length :=
  (xinv_reach false false id σ h).ownerFull

/-- **C03 (no delta runs ahead).** Every delta ever computed about the member announces a max version
and a watermark at most the owner's max version, and every key-value it carries is the owner's write
at that version. -/
theorem C03_deltas_not_ahead (σ : XSys) (h : XReach false σ) (d : NodeDelta × Nat) (hd : d ∈ σ.deltas) :
    d.1.NotAhead σ.owner ∧
    (∀ kv ∈ d.1.kvs, σ.H[kv.version - 1]? = some ⟨kv.key, kv.value, kv.status⟩) := by
  have hinv := xinv_reach false false id σ h
  have hok := hinv.deltaOKW d hd
  obtain ⟨_, hnodup, _⟩ := hinv.deltaWF d hd
  refine ⟨notAhead_of_deltaOKW hok hinv.ownerFull, fun kv hkv => ?_⟩
  have hfind := AL.find_of_mem_nodup hnodup hkv
  exact (hok.d1 kv.key (entOfKVM kv) (congrArg (Option.map entOfKVM) hfind)).2.1

/-- **C03 / C05 (system level).** Delivering any delta ever computed to the owner leaves the owner's
namespace exactly as it was. -/
theorem C03_gossip_never_changes_owner (σ : XSys) (h : XReach false σ) (d : NodeDelta × Nat)
    (hd : d ∈ σ.deltas) (now : Nat) : σ.owner.applyDelta d.1 now = .ok (σ.owner, .reject, []) :=
  NodeState.applyDelta_reject (NodeState.checkDeltaStatus_eq_reject_of_notAhead (C03_deltas_not_ahead σ h d hd).1)

/-- **C03 (no cross-wiring between members).** Applying a delta changes only the copies of the members
it addresses. -/
theorem C03_no_crosswire (now : Nat) (nds : List (Id × NodeDelta)) (cs cs' : ClusterState) (flag : Bool)
    (evs : List (Id × Event)) (j : Id) (hj : ∀ p ∈ nds, p.1 ≠ j)
    (h : ClusterState.applyDelta now cs nds = .ok (cs', flag, evs)) :
    cs'.nodeState j = cs.nodeState j :=
  applyDelta_unaddressed h hj

theorem XReach.copy_le {σ : XSys} (h : XReach false σ) {r : NodeState} (hr : r ∈ σ.replicas) :
    r.lastGc ≤ σ.H.length ∧ r.maxVersion ≤ σ.H.length := by
  have := (C03_integrity σ h r hr).2
  rw [C03_owner_is_frontier σ h] at this
  exact ⟨this.2, this.1⟩

/-- **C03 (heartbeats).** A recorded heartbeat is always a value that was reported: it never exceeds
the maximum of what was known and what the digest said (and digests only carry recorded heartbeats,
the owner's own being the largest). -/
theorem C03_heartbeat_bound (s : NodeState) (hb : Nat) :
    (s.trySetHeartbeat hb).1.heartbeat ≤ max s.heartbeat hb :=
  Nat.le_of_eq (congrArg NodeState.heartbeat (NodeState.trySetHeartbeat_fst s hb))

/-- **C03 / C18 (an honest catch-up never corrupts).** In any reachable state — after any history of
writes, gossip with losses, duplicates and stale deltas, GCs, joins and removals, and earlier
catch-ups — feeding holder `i`'s copy of the member through `reset_node_state_if_update` on holder
`j` leaves `j` with a copy that holds only writes of the owner, at their versions, and is not ahead of
the owner. -/
theorem C03_catchup_keeps_integrity (σ : XSys) (h : XReach false σ) (i j : Nat) (s d : NodeState)
    (hs : σ.replicas[i]? = some s) (hd : σ.replicas[j]? = some d) :
    (∀ k vv, AL.lookup k (d.catchupCopy s.kvs s.maxVersion s.lastGc).kvs = some vv →
        1 ≤ vv.version ∧ σ.H[vv.version - 1]? = some ⟨k, vv.value, vv.status.toM⟩) ∧
    (d.catchupCopy s.kvs s.maxVersion s.lastGc).maxVersion ≤ σ.owner.maxVersion ∧
    (d.catchupCopy s.kvs s.maxVersion s.lastGc).lastGc ≤ σ.owner.maxVersion :=
  C03_integrity _ (XReach.step _ _ h (XStep.catchup σ i j s d hs hd)) _
    (List.mem_set (List.getElem?_eq_some_iff.1 hd).1 _)

/-! ### Non-vacuity: a reachable state with a write, a replica, a delta and a delivery -/
example : ∃ σ, XReach false σ ∧ σ.replicas ≠ [] ∧ σ.deltas ≠ [] ∧ σ.H ≠ [] :=
  ⟨_, XReach.step _ _ (XReach.step _ _ (XReach.step _ _ XReach.init
      (XStep.write _ ⟨[1], [2], .set⟩ 0)) (XStep.join _ 5)) (XStep.offerOwner _ 0 1 false),
    List.cons_ne_nil _ _, List.cons_ne_nil _ _, List.cons_ne_nil _ _⟩

end Chitchat
