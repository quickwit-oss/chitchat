/-
Props/C17.lean — peer selection is bounded and always reaches a seed when isolated.
All statements hold for every outcome of the random generator (`SelRandom.Valid`).
-/
import ChitchatModel.Model.Select
namespace Chitchat

/-- what `choose` returned is an element of the list it chose from (`Valid.deadPick`, `Valid.seedPick`) -/
theorem pick_mem {l : List Nat} {o : Option Nat}
    (h : (l = [] → o = none) ∧ (l ≠ [] → ∃ a ∈ l, o = some a)) {a : Nat} (ha : o = some a) : a ∈ l := by
  by_cases hl : l = []
  · rw [h.1 hl] at ha; cases ha
  · obtain ⟨b, hb, hp⟩ := h.2 hl
    cases hp.symm.trans ha; exact hb

/-- **C17 (bounds).** At most three distinct peers from the live pool (or from all peers when none
is live), at most one dead peer from the dead set, at most one seed from the seed set. -/
theorem C17_bounds (i : SelInput) (r : SelRandom) (h : r.Valid i) :
    let res := selectNodes i r
    res.1.length ≤ 3 ∧ res.1.Nodup ∧ (∀ a ∈ res.1, a ∈ i.pool) ∧
    (∀ a, res.2.1 = some a → a ∈ i.dead) ∧ (∀ a, res.2.2 = some a → a ∈ i.seeds) := by
  simp only [selectNodes]
  refine ⟨?_, h.sampledNodup, h.sampledSub, fun a ha => ?_, fun a ha => ?_⟩
  · rw [h.sampledLen]
    exact Nat.min_le_left _ _
  · exact pick_mem h.deadPick (Option.ite_none_right_eq_some.1 ha).2
  · have ha := (Option.ite_none_right_eq_some.1 ha).2
    exact pick_mem h.seedPick (Option.ite_none_right_eq_some.1 ha).2

/-- **C17 (seed forced).** With no live peer and at least one seed, a seed is always among the
contacted addresses (either sampled, or chosen as the extra seed): a cold start or a full partition
cannot become permanent. -/
theorem C17_seed_forced (i : SelInput) (r : SelRandom) (h : r.Valid i)
    (hlive : i.live = []) (hseeds : i.seeds ≠ []) :
    let res := selectNodes i r
    (∃ a ∈ res.1, a ∈ i.seeds) ∨ (∃ a ∈ i.seeds, res.2.2 = some a) := by
  simp only [selectNodes]
  by_cases hs : r.sampled.any (fun a => i.seeds.contains a) = true
  · left
    rw [List.any_eq_true] at hs
    obtain ⟨a, ha, hc⟩ := hs
    exact ⟨a, ha, List.contains_iff_mem.1 hc⟩
  · right
    obtain ⟨b, hb, hp⟩ := h.seedPick.2 hseeds
    refine ⟨b, hb, ?_⟩
    rw [Bool.eq_false_iff.2 hs]
    have ha : seedAttempted i r.d2 = true := by unfold seedAttempted; rw [hlive]; rfl
    simp only [Bool.not_false, Bool.true_or, if_true, ha, hp]

/-- **C17 (dead forced).** When dead peers outnumber live ones a dead peer is always contacted. -/
theorem C17_dead_forced (i : SelInput) (r : SelRandom) (h : r.Valid i)
    (hmore : i.live.length < i.dead.length) :
    ∃ a ∈ i.dead, (selectNodes i r).2.1 = some a := by
  have hpos : 0 < i.dead.length := Nat.zero_lt_of_lt hmore
  obtain ⟨b, hb, hp⟩ := h.deadPick.2 (List.ne_nil_of_length_pos hpos)
  refine ⟨b, hb, ?_⟩
  simp only [selectNodes]
  have : deadAttempted i r.d1 = true := by
    unfold deadAttempted
    apply decide_eq_true
    calc r.d1 * (i.live.length + 1) ≤ r.d1 * i.dead.length := Nat.mul_le_mul_left _ hmore
      _ < two53 * i.dead.length := Nat.mul_lt_mul_of_pos_right h.d1lt hpos
      _ = i.dead.length * two53 := Nat.mul_comm _ _
  rw [this, if_pos rfl, hp]

/-- **C17 (total).** The `seeds / (live + dead)` probability is only consulted when a live peer
exists, so it is never `0/0`. -/
theorem C17_no_zero_division (i : SelInput) (d2 : Nat) (h : i.live.length + i.dead.length = 0) :
    seedAttempted i d2 = true := by
  unfold seedAttempted
  rw [Nat.eq_zero_of_add_eq_zero_right h]
  rfl

/-! ### Non-vacuity -/
example : (⟨[1, 2, 3], 0, none, 5, some 9⟩ : SelRandom).Valid ⟨[1, 2, 3, 4], [], [], [9]⟩ :=
  { sampledSub := by decide, sampledNodup := by decide, sampledLen := by decide,
    d1lt := by decide, d2lt := by decide,
    deadPick := ⟨fun _ => rfl, fun h => absurd rfl h⟩,
    seedPick := ⟨fun h => (by cases h), fun _ => ⟨9, (by decide), rfl⟩⟩ }

end Chitchat
