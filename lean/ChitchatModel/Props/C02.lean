/-
Props/C02.lean — no resurrection: a copy is exact up to its version frontier.

The statement as given is FALSE of the model and of the code (`C02_counterexample`, known finding
KF-1). What is proved is `C02_exact_up_to_frontier_partial`: the statement holds in every state
reachable by schedules in which no delivery matches the KF-1 pattern (`XReach true`): an incremental
apply into a copy whose GC watermark is above both the delta's max version and the horizon
max(watermark, max version) of the copy the delta was computed from.
-/
import ChitchatModel.Lemmas.SystemInv
namespace Chitchat
open NodeState Ledger ClusterState

/-- The property, for one copy `r` of the member with ledger `H`: for every key whose most recent
write by the owner is at or below the copy's max version, the copy holds exactly that write, except
that a deleted / TTL write may be absent once its version is at or below the copy's watermark. -/
def C02_statement (H : List Write) (r : NodeState) : Prop :=
  ∀ k v value st, IsLast H k v value st → v ≤ r.maxVersion →
    (∃ vv, AL.lookup k r.kvs = some vv ∧ vv.value = value ∧ vv.version = v ∧ vv.status.toM = st) ∨
    (AL.lookup k r.kvs = none ∧ st ≠ .set ∧ v ≤ r.lastGc)

/-- **C02 (partial).** In every state reachable without a KF-1-pattern delivery — under arbitrary
interleavings of owner writes, GC at any time on any copy, loss, duplication, reordering, delay,
truncation at any key boundary, relays through stale peers, copies falling arbitrarily far behind and
late joiners — every replica and the owner's own copy satisfy the property. In particular a key
deleted at a version the copy has passed is never shown with an older value. -/
theorem C02_exact_up_to_frontier_partial (σ : XSys) (h : XReach true σ) :
    C02_statement σ.H σ.owner ∧ ∀ r ∈ σ.replicas, C02_statement σ.H r := by
  have hinv := xinv_reach true true (fun _ => rfl) σ h
  have key : ∀ r : NodeState, Inv σ.H (absCopy r) → C02_statement σ.H r := by
    intro r hi k v value st hl hv
    refine (hi.i3a k v value st hl hv).imp (fun h1 => ?_) (fun h1 => ⟨Option.map_eq_none_iff.1 h1.1, h1.2⟩)
    obtain ⟨vv, hk, he⟩ := Option.map_eq_some_iff.1 h1
    cases he
    exact ⟨vv, hk, rfl, rfl, rfl⟩
  exact ⟨key _ hinv.ownerInv, fun r hr => key r (hinv.repInv rfl r hr)⟩

/-- The corollary the property singles out: a key the owner deleted at a version the copy has passed
is not shown as present with an older value. -/
theorem C02_no_resurrection_partial (σ : XSys) (h : XReach true σ) (r : NodeState) (hr : r ∈ σ.replicas)
    (k : Bytes) (v : Nat) (hl : IsLast σ.H k v [] .delete) (hv : v ≤ r.maxVersion) :
    r.get k = none := by
  rcases (C02_exact_up_to_frontier_partial σ h).2 r hr k v [] .delete hl hv with ⟨vv, h1, _, _, h4⟩ | ⟨h1, _, _⟩
  · unfold NodeState.get getVersioned
    rw [h1]
    -- the status abstracts to `.delete`
    have : vv.isDeleted = true := by
      cases hs : vv.status <;> simp_all [VV.isDeleted, Status.toM]
    simp [this]
  · unfold NodeState.get getVersioned
    rw [h1]

/-! ### The counterexample (KF-1), on the executable model

Owner X writes `k2 := b` (v1), `k1 := a` (v2), then deletes `k1` (v3). A is up to date and collects
the tombstone; B is stale (it has v1, v2 only); T joins late: it is reset by A with a truncated
delta (watermark 3, max version 1), then fed by B, then completed by X. -/

def kx_H : List Write := [⟨[2], [98], .set⟩, ⟨[1], [97], .set⟩, ⟨[1], [], .delete⟩]

/-- A's copy after it collected the tombstone: watermark 3 -/
def kx_A : NodeState := ⟨5, [([2], ⟨[98], 1, .set⟩)], 3, 3⟩

/-- B's stale copy: it never saw the deletion -/
def kx_B : NodeState := ⟨5, [([1], ⟨[97], 2, .set⟩), ([2], ⟨[98], 1, .set⟩)], 2, 0⟩

/-- X's own copy after its own GC -/
def kx_X : NodeState := ⟨9, [([2], ⟨[98], 1, .set⟩)], 3, 3⟩

/-- T, a late joiner: an empty copy -/
def kx_T0 : NodeState := ⟨5, [], 0, 0⟩

/-- T ← A (reset from version 0), T ← B (incremental: the KF-1 pattern), T ← X (SetMaxVersion 3) -/
def kx_run : Except Panic NodeState :=
  match kx_T0.applyDelta (senderNodeDelta kx_A (senderFrom kx_A kx_T0.lastGc kx_T0.maxVersion) 9 true) 10 with
  | .error e => .error e
  | .ok (t1, _, _) =>
    match t1.applyDelta (senderNodeDelta kx_B (senderFrom kx_B t1.lastGc t1.maxVersion) 9 true) 11 with
    | .error e => .error e
    | .ok (t2, _, _) =>
      match t2.applyDelta (senderNodeDelta kx_X (senderFrom kx_X t2.lastGc t2.maxVersion) 9 true) 12 with
      | .error e => .error e
      | .ok (t3, _, _) => .ok t3

/-- **C02 is false as stated.** T ends at max version 3 — beyond the deletion of `k1` at version 3 —
and still shows `k1 = "a"`. (Replayed on the real code: `corpus/cluster/KF1-…trace`.) -/
theorem C02_counterexample :
    kx_run = .ok ⟨5, [([1], ⟨[97], 2, .set⟩), ([2], ⟨[98], 1, .set⟩)], 3, 3⟩ ∧
    IsLast kx_H [1] 3 [] .delete ∧
    ¬ C02_statement kx_H ⟨5, [([1], ⟨[97], 2, .set⟩), ([2], ⟨[98], 1, .set⟩)], 3, 3⟩ := by
  have hl : IsLast kx_H [1] 3 [] .delete := by
    refine ⟨by decide, by decide, fun v' value' st' hlt => ?_⟩
    -- the ledger has three writes
    rw [List.getElem?_eq_none (l := kx_H) (Nat.le_sub_one_of_lt hlt)]
    exact fun h => nomatch h
  refine ⟨by rfl, hl, fun hstmt => ?_⟩
  rcases hstmt [1] 3 [] .delete hl (by decide) with ⟨vv, h1, h2, _, _⟩ | ⟨h1, _, _⟩
  · simp [AL.lookup_cons] at h1
    subst h1
    simp at h2
  · simp [AL.lookup_cons] at h1

/-- The middle delivery of the counterexample is exactly the excluded pattern. -/
theorem C02_counterexample_is_kf1 :
    kf1Pattern ⟨5, [([2], ⟨[98], 1, .set⟩)], 1, 3⟩
      (senderNodeDelta kx_B 1 9 true, max kx_B.lastGc kx_B.maxVersion) := by
  unfold kf1Pattern
  decide

/-- **C02 (no gap on apply).** An incremental apply never leaves a gap: a delta that is applied
without a reset starts at or below the copy's max version (and one applied after a reset starts at
0). -/
theorem C02_no_gap_on_apply (s : NodeState) (nd : NodeDelta) :
    (s.checkDeltaStatus nd = .apply → nd.fromExcl ≤ s.maxVersion) ∧
    (s.checkDeltaStatus nd = .applyAfterReset → nd.fromExcl = 0) :=
  ⟨fun h => ((checkDeltaStatus_apply_iff s nd).1 h).1, fun h => ((checkDeltaStatus_reset_iff s nd).1 h).1⟩

/-! ### Non-vacuity: a guarded execution with a reset, a truncation and a relay -/
example : ∃ σ, XReach true σ ∧ σ.replicas.length = 2 := by
  refine ⟨_, XReach.step _ _ (XReach.step _ _ (XReach.step _ _ (XReach.step _ _ XReach.init
      (XStep.write _ ⟨[1], [2], .set⟩ 0)) (XStep.join _ 5)) (XStep.join _ 6))
      (XStep.offerOwner _ 0 1 false), ?_⟩
  rfl

end Chitchat
