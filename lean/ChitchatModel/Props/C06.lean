/-
Props/C06.lean — local key-value reads, deletes, TTL and tombstone GC follow a simple model.

The reference is a function map `Bytes → Option VV` with a version counter; the abstraction of a
`NodeState` is `fun k => lookup k kvs`. Every API operation commutes with the abstraction, and every
read is determined by the abstraction.
-/
import ChitchatModel.Lemmas.Local
namespace Chitchat
open NodeState

/-- The reference versioned map. -/
structure Ref where
  m : Bytes → Option VV
  max : Nat

namespace Ref

def empty : Ref := ⟨fun _ => none, 0⟩

/-- write `v` under `k` with the next version -/
def write (r : Ref) (k : Bytes) (value : Bytes) (st : Status) : Ref :=
  ⟨fun k' => if k' = k then some ⟨value, r.max + 1, st⟩ else r.m k', r.max + 1⟩

def set (r : Ref) (k value : Bytes) : Ref :=
  match r.m k with
  | some p => if p.value = value ∧ p.status = .set then r else r.write k value .set
  | none => r.write k value .set

def setWithTtl (r : Ref) (k value : Bytes) (now : Nat) : Ref :=
  match r.m k with
  | some p => if p.value = value ∧ Status.isTtl p.status then r else r.write k value (.ttl now)
  | none => r.write k value (.ttl now)

/-- deleting an absent key is a no-op; otherwise the key gets a tombstone (invisible at once) -/
def delete (r : Ref) (k : Bytes) (now : Nat) : Ref :=
  match r.m k with
  | none => r
  | some _ => r.write k [] (.deleted now)

/-- a key that is absent *or already deleted* is left alone; otherwise it keeps its value, stays
visible, and is scheduled for collection -/
def deleteAfterTtl (r : Ref) (k : Bytes) (now : Nat) : Ref :=
  match r.m k with
  | none => r
  | some p => if p.isDeleted then r else r.write k p.value (.ttl now)

/-- a GC pass removes exactly the deleted / TTL entries at least one grace period old -/
def gc (r : Ref) (now grace : Nat) : Ref :=
  ⟨fun k => match r.m k with
    | some v => if expired now grace v then none else some v
    | none => none, r.max⟩

def get (r : Ref) (k : Bytes) : Option Bytes :=
  match r.m k with
  | some v => if v.isDeleted then none else some v.value
  | none => none

end Ref

def absRef (s : NodeState) : Ref := ⟨fun k => AL.lookup k s.kvs, s.maxVersion⟩

theorem Ref.ext' {a b : Ref} (hm : ∀ k, a.m k = b.m k) (hx : a.max = b.max) : a = b := by
  cases a; cases b; simp only at hm hx; subst hx
  congr; exact funext hm

/-- One API operation. -/
inductive LocalOp where
  | set (k v : Bytes)
  | setWithTtl (k v : Bytes)
  | delete (k : Bytes)
  | deleteAfterTtl (k : Bytes)
  | advance (dt : Nat)
  | gc (grace : Nat)

def stepLocal (st : NodeState × Nat) : LocalOp → NodeState × Nat
  | .set k v => ((st.1.set k v).1, st.2)
  | .setWithTtl k v => ((st.1.setWithTtl k v st.2).1, st.2)
  | .delete k => (st.1.delete k st.2, st.2)
  | .deleteAfterTtl k => (st.1.deleteAfterTtl k st.2, st.2)
  | .advance dt => (st.1, st.2 + dt)
  | .gc grace => (st.1.gcKeys st.2 grace, st.2)

def stepRef (st : Ref × Nat) : LocalOp → Ref × Nat
  | .set k v => (st.1.set k v, st.2)
  | .setWithTtl k v => (st.1.setWithTtl k v st.2, st.2)
  | .delete k => (st.1.delete k st.2, st.2)
  | .deleteAfterTtl k => (st.1.deleteAfterTtl k st.2, st.2)
  | .advance dt => (st.1, st.2 + dt)
  | .gc grace => (st.1.gc st.2 grace, st.2)

theorem absRef_bump (s : NodeState) (k value : Bytes) (st : Status) :
    absRef (bump s k value st) = (absRef s).write k value st :=
  Ref.ext' (fun _ => AL.lookup_insert ..) rfl

/-- **C06 (one step).** Each API operation commutes with the abstraction and keeps the
representation invariant. -/
theorem C06_step_refines (st : NodeState × Nat) (op : LocalOp) (h : WFLocal st.1) :
    WFLocal (stepLocal st op).1 ∧
    (absRef (stepLocal st op).1, (stepLocal st op).2) = stepRef (absRef st.1, st.2) op := by
  obtain ⟨s, now⟩ := st
  -- the reference reads what `lookup` finds, and an effective `set` / `set_with_ttl` is a `write`
  have hm : ∀ k, (absRef s).m k = AL.lookup k s.kvs := fun _ => rfl
  have hw : ∀ k v st, absRef (s.setVersionedValue k ⟨v, s.maxVersion + 1, st⟩).1 = (absRef s).write k v st :=
    fun k v st => by rw [svv_fresh h.leMax, absRef_bump]
  -- so both sides are the same program on what is stored under the key
  cases op with
  | set k v =>
    refine ⟨wfLocal_set h k v, congrArg (·, now) ?_⟩
    show absRef (s.set k v).1 = (absRef s).set k v
    unfold NodeState.set Ref.set getVersioned
    rw [hm]
    cases AL.lookup k s.kvs <;> simp only [apply_ite Prod.fst, apply_ite absRef, hw]
  | setWithTtl k v =>
    refine ⟨wfLocal_setWithTtl h k v now, congrArg (·, now) ?_⟩
    show absRef (s.setWithTtl k v now).1 = (absRef s).setWithTtl k v now
    unfold NodeState.setWithTtl Ref.setWithTtl getVersioned
    rw [hm]
    cases AL.lookup k s.kvs <;> simp only [apply_ite Prod.fst, apply_ite absRef, hw]
  | delete k =>
    refine ⟨wfLocal_delete h k now, congrArg (·, now) ?_⟩
    show absRef (s.delete k now) = (absRef s).delete k now
    unfold NodeState.delete Ref.delete getVersioned
    rw [hm]
    cases AL.lookup k s.kvs with
    | none => rfl
    | some p => exact absRef_bump ..
  | deleteAfterTtl k =>
    refine ⟨wfLocal_deleteAfterTtl h k now, congrArg (·, now) ?_⟩
    show absRef (s.deleteAfterTtl k now) = (absRef s).deleteAfterTtl k now
    unfold NodeState.deleteAfterTtl Ref.deleteAfterTtl getVersioned
    rw [hm]
    cases AL.lookup k s.kvs with
    | none => rfl
    | some p => exact (apply_ite absRef ..).trans (congrArg _ (absRef_bump ..))
  | advance dt => exact ⟨h, rfl⟩
  | gc grace =>
    exact ⟨wfLocal_gcKeys h now grace, congrArg (·, now) (Ref.ext' (gcKeys_lookup h.sorted now grace) rfl)⟩

/-- **C06 (refinement).** For every operation sequence from the empty state, the implementation's
map equals the reference map (and the clock agrees). -/
theorem C06_refines (ops : List LocalOp) :
    WFLocal (ops.foldl stepLocal (NodeState.empty, 0)).1 ∧
    (absRef (ops.foldl stepLocal (NodeState.empty, 0)).1, (ops.foldl stepLocal (NodeState.empty, 0)).2)
      = ops.foldl stepRef (Ref.empty, 0) := by
  have gen : ∀ (ops : List LocalOp) (st : NodeState × Nat) (rt : Ref × Nat), WFLocal st.1 →
      (absRef st.1, st.2) = rt →
      WFLocal (ops.foldl stepLocal st).1 ∧
      (absRef (ops.foldl stepLocal st).1, (ops.foldl stepLocal st).2) = ops.foldl stepRef rt := by
    intro ops
    induction ops with
    | nil => intro st rt h e; exact ⟨h, e⟩
    | cons op rest ih =>
      intro st rt h e
      simp only [List.foldl_cons]
      obtain ⟨h1, e1⟩ := C06_step_refines st op h
      apply ih _ _ h1
      rw [e1, e]
  exact gen ops _ _ wfLocal_empty rfl

/-- **C06 (get / contains).** `get` and `contains_key` are the reference's. -/
theorem C06_get (s : NodeState) (k : Bytes) : s.get k = (absRef s).get k := rfl

theorem C06_contains (s : NodeState) (k : Bytes) : s.containsKey k = ((absRef s).get k).isSome := rfl

/-- **C06 (delete).** A deleted key is invisible immediately. -/
theorem C06_delete_invisible (s : NodeState) (k : Bytes) (now : Nat) : (s.delete k now).get k = none := by
  unfold NodeState.delete getVersioned
  cases hl : AL.lookup k s.kvs with
  | none => simp [NodeState.get, getVersioned, hl]
  | some p => simp [NodeState.get, getVersioned, AL.lookup_insert_self, VV.isDeleted]

/-- **C06 (delete absent).** Deleting an absent key is a no-op. -/
theorem C06_delete_absent_noop (s : NodeState) (k : Bytes) (now : Nat) (h : AL.lookup k s.kvs = none) :
    s.delete k now = s ∧ s.deleteAfterTtl k now = s := by
  simp [NodeState.delete, NodeState.deleteAfterTtl, getVersioned, h]

/-- **C06 (TTL).** A TTL key stays visible (until it is collected). -/
theorem C06_ttl_visible (s : NodeState) (k v : Bytes) (now : Nat) (h : WFLocal s) :
    (s.setWithTtl k v now).1.get k = some v := by
  rw [get_eq_some_iff]
  have hb : ∃ vv, AL.lookup k (bump s k v (.ttl now)).kvs = some vv ∧ vv.isDeleted = false ∧ vv.value = v :=
    ⟨_, (bump_fresh ..).2.1, rfl, rfl⟩
  unfold NodeState.setWithTtl
  split
  · split
    · -- left alone: the stored entry has this value and a TTL status, so it is not a tombstone
      rename_i p hp hc
      refine ⟨p, hp, ?_, hc.1⟩
      have := hc.2
      unfold VV.isDeleted
      cases hs : p.status <;> simp [hs, Status.isTtl] at this ⊢
    · rw [svv_fresh h.leMax]; exact hb
  · rw [svv_fresh h.leMax]; exact hb

/-- **C06 (full iteration).** `key_values()` lists exactly the visible bindings … -/
theorem C06_keyValues_exact (s : NodeState) (h : WFLocal s) (k v : Bytes) :
    (k, v) ∈ s.keyValues ↔ s.get k = some v := by
  rw [get_eq_some_iff, keyValues, List.mem_map]
  constructor
  · rintro ⟨⟨k', vv⟩, hmem, heq⟩
    obtain ⟨hmem, hvis⟩ := List.mem_filter.1 hmem
    cases heq
    exact ⟨vv, h.mem_iff.1 hmem, by simpa using hvis, rfl⟩
  · rintro ⟨vv, hl, hvis, rfl⟩
    exact ⟨(k, vv), List.mem_filter.2 ⟨h.mem_iff.2 hl, by simpa using hvis⟩, rfl⟩

/-- … in strictly increasing key order. -/
theorem C06_keyValues_sorted (s : NodeState) (h : WFLocal s) :
    (s.keyValues.map (·.1)).Pairwise (fun a b => bytesLt a b = true) := by
  unfold keyValues
  rw [List.map_map, List.pairwise_map]
  exact (List.Pairwise.filter _ h.sorted).imp (fun hab => hab)

/-- **C06 (prefix iteration).** `iter_prefix(p)` yields exactly the visible entries whose key has
prefix `p` … -/
theorem C06_iterPrefix_exact (s : NodeState) (h : WFLocal s) (p k : Bytes) (vv : VV) :
    (k, vv) ∈ s.iterPrefix p ↔
      (AL.lookup k s.kvs = some vv ∧ isPrefix p k = true ∧ vv.isDeleted = false) := by
  rw [iterPrefix, range_prefix_eq_filter p h.sorted, List.mem_filter, List.mem_filter, h.mem_iff]
  simp [and_assoc]

/-- … in key order. -/
theorem C06_iterPrefix_sorted (s : NodeState) (h : WFLocal s) (p : Bytes) :
    SortedKeys (s.iterPrefix p) := by
  unfold iterPrefix
  refine List.Pairwise.filter _ ?_
  exact List.Pairwise.sublist ((List.takeWhile_sublist _).trans (List.dropWhile_sublist _)) h.sorted

/-- **C06 (GC exact).** A GC pass removes exactly the deleted / TTL entries that are at least one
grace period old; everything else is kept unchanged. -/
theorem C06_gc_exact (s : NodeState) (h : WFLocal s) (now grace : Nat) (k : Bytes) :
    (∀ v, AL.lookup k s.kvs = some v → (∃ t, v.status.timeOfStart = some t ∧ t + grace ≤ now) →
        AL.lookup k (s.gcKeys now grace).kvs = none) ∧
    (∀ v, AL.lookup k s.kvs = some v → ¬ (∃ t, v.status.timeOfStart = some t ∧ t + grace ≤ now) →
        AL.lookup k (s.gcKeys now grace).kvs = some v) ∧
    (AL.lookup k s.kvs = none → AL.lookup k (s.gcKeys now grace).kvs = none) := by
  rw [gcKeys_lookup h.sorted]
  refine ⟨fun v hv he => ?_, fun v hv he => ?_, fun hv => by rw [hv]⟩
  · rw [hv]; exact if_pos (expired_iff.2 he)
  · rw [hv]; exact if_neg (mt expired_iff.1 he)

/-- **C06 (GC watermark).** The pass never lowers the watermark, raises it to at least every version
it collected, and the new watermark is the old one or a collected version. -/
theorem C06_gc_watermark (s : NodeState) (now grace : Nat) :
    s.lastGc ≤ (s.gcKeys now grace).lastGc ∧
    (∀ p ∈ s.kvs, expired now grace p.2 = true → p.2.version ≤ (s.gcKeys now grace).lastGc) ∧
    ((s.gcKeys now grace).lastGc = s.lastGc ∨
      ∃ p ∈ s.kvs, expired now grace p.2 = true ∧ p.2.version = (s.gcKeys now grace).lastGc) :=
  gcKeys_watermark s now grace

/-! ### Non-vacuity -/
example : WFLocal (([LocalOp.set [1] [2], .delete [1], .advance 10, .setWithTtl [1, 2] [3]].foldl stepLocal
    (NodeState.empty, 0)).1) := (C06_refines _).1

example : ((([LocalOp.set [1] [2], .set [1, 2] [3], .delete [1]].foldl stepLocal (NodeState.empty, 0)).1).iterPrefix [1]).map (·.1)
    = [[1, 2]] := by decide

end Chitchat
