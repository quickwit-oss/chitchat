/-
Props/C10.lean — failure detection is complete with a bounded delay.
Time is exact (`Nat` ticks); the implementation evaluates the same inequality in `f64`
(DESIGN §3.4: compared by the `fd` correspondence suite, ties nudged away).
-/
import ChitchatModel.Lemmas.FD
namespace Chitchat

/-- **C10 (complete).** Whatever the window holds (any earlier heartbeat pattern, as long as the
stored intervals respect `max_interval`, which `report_heartbeat` guarantees), if the last accepted
heartbeat is older than `phi_threshold × max(max_interval, initial_interval)` the member is not
alive. -/
theorem C10_complete (cfg : FDConfig) (w : Window) (now t : Nat) (hb : w.Bounded cfg)
    (hlast : w.last = some t)
    (hold : cfg.thetaNum * max cfg.maxInterval cfg.initialInterval < (now - t) * cfg.thetaDen) :
    w.alive cfg now = false := by
  apply Bool.eq_false_iff.2
  rw [Ne, Window.alive_iff]
  rintro ⟨_, l, hl, hle⟩
  cases hlast.symm.trans hl
  -- the smoothed mean is at most `max maxInterval initialInterval`
  have hsum := sum_le_of_all_le w.intervals _ fun x hx =>
    Nat.le_trans (hb x hx) (Nat.le_max_left cfg.maxInterval cfg.initialInterval)
  have hM : w.intervals.sum + 5 * cfg.initialInterval ≤
      (w.intervals.length + 5) * max cfg.maxInterval cfg.initialInterval := by
    rw [Nat.add_mul]
    exact Nat.add_le_add hsum (Nat.mul_le_mul_left 5 (Nat.le_max_right _ _))
  exact Nat.lt_irrefl _ (Nat.lt_of_lt_of_le (phi_gt_of_mean_le (Nat.succ_pos _) hM hold) hle)

/-- **C10 (system form).** The same through `update_node_liveness`: the member ends up in the dead
set and out of the live set. -/
theorem C10_reported_dead (cfg : FDConfig) (fd : FD) (i : Id) (w : Window) (now t : Nat)
    (hw : fd.window i = some w) (hb : w.Bounded cfg) (hlast : w.last = some t)
    (hold : cfg.thetaNum * max cfg.maxInterval cfg.initialInterval < (now - t) * cfg.thetaDen) :
    i ∉ (fd.updateNodeLiveness cfg i now).live ∧
    (AL.lookup i (fd.updateNodeLiveness cfg i now).dead).isSome := by
  have hna : ¬ fd.isAlive cfg i now = true := by
    rw [FD.isAlive, hw]; exact ne_true_of_eq_false (C10_complete cfg w now t hb hlast hold)
  rw [mem_live_updateNodeLiveness, lookup_dead_updateNodeLiveness, if_pos rfl, if_pos rfl, if_neg hna]
  exact ⟨hna, rfl⟩

/-- **C10 (two observations).** A member with fewer than two usable observations (no stored
interval, or no window at all) is never reported live. -/
theorem C10_needs_two (cfg : FDConfig) (w : Window) (now : Nat) (h : w.intervals = []) :
    w.alive cfg now = false :=
  Bool.eq_false_iff.2 fun ha => ((Window.alive_iff cfg w now).1 ha).1 h

theorem C10_no_window_not_live (cfg : FDConfig) (fd : FD) (i : Id) (now : Nat) (h : fd.window i = none) :
    i ∉ (fd.updateNodeLiveness cfg i now).live := by
  rw [mem_live_updateNodeLiveness, if_pos rfl, FD.isAlive, h]
  exact Bool.false_ne_true

/-- The first report creates no interval: two reports are needed before `alive` can hold. -/
theorem C10_first_report_no_interval (cfg : FDConfig) (now : Nat) :
    ((({} : Window).report cfg now).alive cfg now) = false :=
  C10_needs_two cfg _ now (Window.report_first cfg now)

/-! ### Non-vacuity: a bounded window whose deadline has passed -/
example : (⟨[3, 4], some 10⟩ : Window).Bounded ⟨8, 1, 1000, 5, 2, 100⟩ := by
  unfold Window.Bounded
  decide

example : (⟨[3, 4], some 10⟩ : Window).alive ⟨8, 1, 1000, 5, 2, 100⟩ 51 = false := by decide

example : (⟨[3, 4], some 10⟩ : Window).alive ⟨8, 1, 1000, 5, 2, 100⟩ 20 = true := by decide

end Chitchat
