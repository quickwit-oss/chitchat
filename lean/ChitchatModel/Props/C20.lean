/-
Props/C20.lean — the catch-up callback fires exactly when gossip reset a copy.
-/
import ChitchatModel.Lemmas.Message
import ChitchatModel.Lemmas.Cluster
namespace Chitchat
open NodeState

/-- **C20 (reset iff).** A node delta resets a copy exactly when it starts from version 0 and both
the copy's watermark and max version are below the delta's watermark. -/
theorem C20_reset_iff (c : NodeState) (nd : NodeDelta) :
    c.checkDeltaStatus nd = .applyAfterReset ↔
      (nd.fromExcl = 0 ∧ c.lastGc < nd.lastGc ∧ c.maxVersion < nd.lastGc) :=
  checkDeltaStatus_reset_iff c nd

/-- A reset wipes the copy and adopts the delta's watermark. -/
theorem C20_reset_effect (c : NodeState) (nd : NodeDelta) (now : Nat) (c' : NodeState) (evs : List Event)
    (h : c.applyDelta nd now = .ok (c', .applyAfterReset, evs)) :
    c'.lastGc = nd.lastGc ∧ c'.maxVersion = nd.maxVersion ∧
    (∀ k v, AL.lookup k c'.kvs = some v → ∃ kv ∈ nd.kvs, kv.key = k ∧ kv.version = v.version) := by
  obtain ⟨hst, _, hok⟩ := applyDelta_spec h
  rw [(hok (by simp)).2, applyBase_of_reset hst.symm]
  refine ⟨storeAll_gc _ _, rfl, fun k v hv => ?_⟩
  rcases storeAll_origin hv with h0 | hmem
  · cases h0
  · obtain ⟨kv, hkv, _, _, e⟩ := mem_stored.1 hmem
    cases e; exact ⟨kv, hkv, rfl, rfl⟩

/-- **C20 (flag).** For a delta whose members are pairwise distinct (every decoded delta:
`DeltaBuilder` refuses a repeated member), `ClusterState::apply_delta` reports a reset iff some
node delta addresses an existing copy and resets it — independently of how many do. -/
theorem C20_flag_iff (now : Nat) (nds : List (Id × NodeDelta)) (hnd : (nds.map (·.1)).Nodup)
    (cs cs' : ClusterState) (flag : Bool) (evs : List (Id × Event))
    (h : ClusterState.applyDelta now cs nds = .ok (cs', flag, evs)) :
    flag = true ↔ ∃ p ∈ nds, ∃ c, cs.nodeState p.1 = some c ∧ c.checkDeltaStatus p.2 = .applyAfterReset := by
  induction nds generalizing cs cs' flag evs with
  | nil => cases h; simp
  | cons p rest ih =>
    obtain ⟨i, nd⟩ := p
    simp only [List.map_cons, List.nodup_cons] at hnd
    simp only [List.mem_cons, exists_eq_or_imp]
    rcases ClusterState.applyDelta_cons_spec h with
      ⟨hn, h⟩ | ⟨s, s', st, ev, ⟨cs2, fl2, ev2⟩, hn, ha, _, hrec, hr⟩
    · rw [ih hnd.2 cs cs' flag evs h, hn]
      -- `i` has no copy: the first disjunct is impossible
      simp only [reduceCtorEq, false_and, exists_false, false_or]
    · cases hr
      -- the copies of the other members are untouched by this step, so the induction hypothesis for
      -- `cs.setNode i s'` speaks of the copies in `cs`
      have hrest := (ih hnd.2 _ _ _ _ hrec).trans <| exists_congr fun q => and_congr_right fun hq => by
        rw [ClusterState.nodeState_setNode, if_neg (fun e => hnd.1 (List.mem_map.2 ⟨q, hq, e⟩))]
      simp only [Bool.or_eq_true, beq_iff_eq, hrest, hn, Option.some.injEq, exists_eq_left',
        (applyDelta_spec ha).1]
      exact Or.comm

/-- **C20 (count).** Processing an ACK invokes the callback exactly once if the delta reset at least
one copy and not at all otherwise. -/
theorem C20_ack_callbacks (C : Compressor) (n n' : Node) (delta : Delta) (now : Nat) (order : List Id)
    (fx : Effects) (hnd : (delta.nodeDeltas.map (·.1)).Nodup)
    (h : n.processMessage C (.ack delta) now order = .ok (n', fx)) :
    fx.callbacks = (if ∃ p ∈ delta.nodeDeltas, ∃ c, n.updateSelfHeartbeat.cs.nodeState p.1 = some c ∧
                        c.checkDeltaStatus p.2 = .applyAfterReset then 1 else 0) := by
  obtain ⟨cs', reset, evs, ha, _, rfl⟩ := Node.processMessage_ack_eq_ok.1 h
  simp only [C20_flag_iff now delta.nodeDeltas hnd _ cs' reset evs ha]

/-- **C20 (SYN-ACK).** Same for a SYN-ACK; the copies are those after the heartbeats of the digest
have been recorded (which may have just created empty copies for newly discovered members). -/
theorem C20_synack_callbacks (C : Compressor) (n n' : Node) (digest : Digest) (delta : Delta) (now : Nat)
    (order : List Id) (fx : Effects) (hnd : (delta.nodeDeltas.map (·.1)).Nodup)
    (h : n.processMessage C (.synAck digest delta) now order = .ok (n', fx)) :
    fx.callbacks = (if ∃ p ∈ delta.nodeDeltas, ∃ c,
                        (n.updateSelfHeartbeat.reportHeartbeatsInDigest digest now).cs.nodeState p.1 = some c ∧
                        c.checkDeltaStatus p.2 = .applyAfterReset then 1 else 0) := by
  obtain ⟨cs', reset, evs, d, ha, _, _, rfl⟩ := Node.processMessage_synAck_eq_ok.1 h
  simp only [C20_flag_iff now delta.nodeDeltas hnd _ cs' reset evs ha]

/-- **C20 (never otherwise).** A SYN or a BadCluster never invokes the callback. -/
theorem C20_syn_no_callback (C : Compressor) (n n' : Node) (cid : Bytes) (digest : Digest) (now : Nat)
    (order : List Id) (fx : Effects)
    (h : n.processMessage C (.syn cid digest) now order = .ok (n', fx)) : fx.callbacks = 0 := by
  rcases Node.processMessage_syn_eq_ok.1 h with ⟨_, _, rfl⟩ | ⟨_, _, _, _, _, rfl⟩ <;> rfl

theorem C20_badcluster_no_callback (C : Compressor) (n n' : Node) (now : Nat) (order : List Id) (fx : Effects)
    (h : n.processMessage C .badCluster now order = .ok (n', fx)) : fx.callbacks = 0 := by
  cases h; rfl

/-! ### Non-vacuity -/
example : (⟨2, [([1], ⟨[6], 1, .set⟩)], 1, 0⟩ : NodeState).checkDeltaStatus ⟨0, 4, [], 3⟩ = .applyAfterReset := by
  decide

end Chitchat
