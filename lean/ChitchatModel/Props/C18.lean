/-
Props/C18.lean — external catch-up never regresses, corrupts or panics.
-/
import ChitchatModel.Props.C12
import ChitchatModel.Lemmas.Catchup
namespace Chitchat
open NodeState

/-- **C18 (never panics, never regresses).** For every existing copy (absent, empty, mid-reset,
ahead, behind) and every supplied state, consistent or not: the call succeeds, and the copy of the
member is either untouched or its frontier strictly increased. -/
theorem C18_no_panic_monotone (n : Node) (i : Id) (kvs : List (Bytes × VV)) (mx gc : Nat) :
    ∃ n' evs, n.resetNodeStateIfUpdate i kvs mx gc = .ok (n', evs) ∧
      (∀ s, n.cs.nodeState i = some s →
        ∃ s', n'.cs.nodeState i = some s' ∧ (s' = s ∨ frontierLt s.frontier s'.frontier)) := by
  obtain ⟨n', evs, h, _, hc⟩ := resetNodeStateIfUpdate_spec n i kvs mx gc
  exact ⟨n', evs, h, fun s hs => ⟨_, hc s hs, (Classical.em _).imp_right
    fun h => catchupCopy_lt s kvs mx gc (catchupCopy_ne h).1 (catchupCopy_ne h).2⟩⟩

/-- **C18 (the copy afterwards, exactly).** Whenever the call returns, the copy of an existing member
is `NodeState.catchupCopy` of the copy before — the transformation whose ledger-level properties
(`Lemmas/Catchup.lean`: integrity and exactness up to the frontier are preserved by honest catch-ups;
`xinv_step`: also inside arbitrary gossip schedules) are proved separately. -/
theorem C18_copy_is_catchupCopy (n n' : Node) (i : Id) (kvs : List (Bytes × VV)) (mx gc : Nat)
    (evs : List (Id × Event)) (s : NodeState) (h : n.resetNodeStateIfUpdate i kvs mx gc = .ok (n', evs))
    (hs : n.cs.nodeState i = some s) :
    n'.cs.nodeState i = some (s.catchupCopy kvs mx gc) := by
  obtain ⟨n1, evs1, h1, _, hc⟩ := resetNodeStateIfUpdate_spec n i kvs mx gc
  cases h.symm.trans h1
  exact hc s hs

/-- **C18 (never makes a member live by itself).** The live and dead sets are untouched; at most an
empty sampling window is created (so that the state can be garbage collected later). -/
theorem C18_not_live (n n' : Node) (i : Id) (kvs : List (Bytes × VV)) (mx gc : Nat) (evs : List (Id × Event))
    (h : n.resetNodeStateIfUpdate i kvs mx gc = .ok (n', evs)) :
    n'.fd.live = n.fd.live ∧ n'.fd.dead = n.fd.dead ∧
    (∀ j, j ≠ i → n'.fd.window j = n.fd.window j) ∧
    (∀ w, n.fd.window i = some w → n'.fd.window i = some w) ∧
    (n.fd.window i = none → n'.fd.window i = none ∨ n'.fd.window i = some {}) := by
  obtain ⟨n1, evs1, h1, hfd, _⟩ := resetNodeStateIfUpdate_spec n i kvs mx gc
  cases h.symm.trans h1
  rcases hfd with e | e
  · rw [e]
    exact ⟨rfl, rfl, fun _ _ => rfl, fun _ hw => hw, fun hw => Or.inl hw⟩
  · rw [e]
    simp only [window_createWindow]
    exact ⟨(createWindow_live_dead n.fd i).1, (createWindow_live_dead n.fd i).2, fun j hj => if_neg hj,
      fun w hw => by simp [hw], fun hw => by simp [hw]⟩

/-- **C18 (never recreates a garbage collected member).** -/
theorem C18_no_recreate (n : Node) (i : Id) (kvs : List (Bytes × VV)) (mx gc h : Nat)
    (habs : n.cs.nodeState i = none) (hmem : n.cs.lastHeartbeatIfDeleted i = some h) :
    n.resetNodeStateIfUpdate i kvs mx gc = .ok (n, []) :=
  C12_catchup_never_recreates n i kvs mx gc h habs hmem

/-- **C18 (unchanged or replaced).** When the copy is replaced, its key set is a subset of the
supplied keys, and a key present on both sides keeps the newer of the two versions. -/
theorem C18_keys_subset (n n' : Node) (i : Id) (kvs : List (Bytes × VV)) (mx gc : Nat) (evs : List (Id × Event))
    (s s' : NodeState) (h : n.resetNodeStateIfUpdate i kvs mx gc = .ok (n', evs))
    (hs : n.cs.nodeState i = some s) (hs' : n'.cs.nodeState i = some s') (hne : s' ≠ s) :
    (∀ p ∈ s'.kvs, p.1 ∈ kvs.map (·.1)) := by
  cases (C18_copy_is_catchupCopy n n' i kvs mx gc evs s h hs).symm.trans hs'
  exact catchupCopy_keys s kvs mx gc hne

/-- `reset_node_state_if_update(absent, [], 5, 0)`, which aborted at the final assertion before the
repair F-1, returns. -/
example (cfg : Config) (i : Id) :
    ∃ r, ({ cfg := cfg } : Node).resetNodeStateIfUpdate i [] 5 0 = .ok r := by
  obtain ⟨n', evs, h, _⟩ := C18_no_panic_monotone { cfg := cfg } i [] 5 0
  exact ⟨(n', evs), h⟩

/-- **C18 (supplied key-values are kept).** When the catch-up is accepted, every supplied key is in
the copy afterwards at the supplied version or a newer one (the one the copy already held) — none is
skipped because of the copy's max version. -/
theorem C18_supplied_kept (n n' : Node) (i : Id) (kvs : List (Bytes × VV)) (mx gc : Nat) (evs : List (Id × Event))
    (s s' : NodeState) (h : n.resetNodeStateIfUpdate i kvs mx gc = .ok (n', evs))
    (hs : n.cs.nodeState i = some s) (hs' : n'.cs.nodeState i = some s') (hne : s' ≠ s)
    (kv : Bytes × VV) (hkv : kv ∈ kvs) :
    ∃ v', AL.lookup kv.1 s'.kvs = some v' ∧ kv.2.version ≤ v'.version := by
  cases (C18_copy_is_catchupCopy n n' i kvs mx gc evs s h hs).symm.trans hs'
  exact catchupCopy_supplied s kvs mx gc hne kv hkv

end Chitchat
