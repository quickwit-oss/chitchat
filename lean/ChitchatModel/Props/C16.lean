/-
Props/C16.lean — clusters with different ids stay isolated: per message (a SYN of another cluster gets
`BadCluster` and nothing else), and per system (`Net`; invariant `NetInv`: the members a node holds copies of
and the members a message names belong to the node's resp. the sender's cluster, and a SYN-ACK / ACK travels
within one cluster).
-/
import ChitchatModel.Lemmas.Message
import ChitchatModel.Props.C07
import ChitchatModel.Props.C19
namespace Chitchat

/-- **C16 (bad cluster).** A SYN carrying a different cluster id is answered with `BadCluster` only,
and the node it reaches is exactly the node after a self-heartbeat tick: membership, every copy's
key-values and heartbeat, the failure detector, the GC memory and the watch channel are untouched;
nothing of the SYN's digest is looked at. -/
theorem C16_bad_cluster (C : Compressor) (n : Node) (cid : Bytes) (digest : Digest) (now : Nat)
    (order : List Id) (h : cid ≠ n.cfg.clusterId) :
    n.processMessage C (.syn cid digest) now order =
      .ok (n.updateSelfHeartbeat, { reply := some .badCluster }) :=
  Node.processMessage_syn_eq_ok.2 (Or.inl ⟨h, rfl, rfl⟩)

/-- What the self-heartbeat tick changes: only the local member's heartbeat. -/
theorem C16_tick_only_self_heartbeat (n : Node) :
    n.updateSelfHeartbeat.fd = n.fd ∧ n.updateSelfHeartbeat.watch = n.watch ∧
    n.updateSelfHeartbeat.previousLive = n.previousLive ∧
    (∀ j, j ≠ n.cfg.selfId → n.updateSelfHeartbeat.cs.nodeState j = n.cs.nodeState j) :=
  ⟨rfl, rfl, rfl, Node.nodeState_updateSelfHeartbeat_ne n⟩

/-- **C16 (a BadCluster reply is inert).** Receiving `BadCluster` changes nothing but the tick. -/
theorem C16_badcluster_reply_inert (C : Compressor) (n : Node) (now : Nat) (order : List Id) :
    n.processMessage C .badCluster now order = .ok (n.updateSelfHeartbeat, {}) := rfl

/-- **C16 (no leak).** Consequently a node of cluster `A` never sends a SYN-ACK or ACK (the only
messages that carry digests, heartbeats or key-values back) in reply to a SYN of cluster `B ≠ A`:
the reply is `BadCluster`, which carries no data. Since SYN-ACKs are only produced for SYNs and ACKs
only for SYN-ACKs, under the network assumption that a reply reaches the node the request came from,
no member, heartbeat or key-value ever crosses from one cluster to the other. -/
theorem C16_no_data_in_reply (C : Compressor) (n n' : Node) (cid : Bytes) (digest : Digest) (now : Nat)
    (order : List Id) (fx : Effects) (hne : cid ≠ n.cfg.clusterId)
    (h : n.processMessage C (.syn cid digest) now order = .ok (n', fx)) :
    fx.reply = some .badCluster ∧ fx.events = [] ∧ fx.callbacks = 0 := by
  rcases Node.processMessage_syn_eq_ok.1 h with ⟨_, _, rfl⟩ | ⟨e, _⟩
  · exact ⟨rfl, rfl, rfl⟩
  · exact absurd e hne

/-- **C16 (the rejection on the wire).** Whatever the socket sent or failed to send before — its
reusable send buffer in any state — the answer to a foreign SYN handed to a reachable node is the
four bytes of `BadCluster` and nothing else, and the node that receives that datagram decodes
`BadCluster`. -/
theorem C16_rejection_on_the_wire (C : Compressor) (s : UdpSock) :
    ∃ s', s.send C .badCluster .peer = .ok (s', some [0x53, 0xB0, 0, 3]) ∧
      UdpSock.receiveOne C [0x53, 0xB0, 0, 3] = some .badCluster := by
  obtain ⟨s', h⟩ := C19_udp_send_exact C s .badCluster .peer [0x53, 0xB0, 0, 3] (by rfl)
  refine ⟨s', ?_, by rfl⟩
  rw [h, if_pos ⟨rfl, by decide⟩]

/-! ### Non-vacuity: cluster ids that are prefixes / case variants of each other are different -/
example : ([99] : Bytes) ≠ [99, 50] := by decide

example : ([99] : Bytes) ≠ [67] := by decide

example : ([] : Bytes) ≠ [99] := by decide

section Network
open NodeState ClusterState Node

/-! ### Several clusters on one network -/

/-- the node holds a copy of member `i` -/
def Node.Knows (n : Node) (i : Id) : Prop := (n.cs.nodeState i).isSome = true

def csKnows (cs : ClusterState) (i : Id) : Prop := (cs.nodeState i).isSome = true

theorem csKnows_of_mem {cs : ClusterState} {i : Id} {s : NodeState} (h : (i, s) ∈ cs.nodes) : csKnows cs i :=
  (AL.lookup_isSome_iff i cs.nodes).2 (List.mem_map.2 ⟨(i, s), h, rfl⟩)

theorem csKnows_of_agree {cs cs' : ClusterState} {i : Id} (h : ∀ j, j ≠ i → cs'.nodeState j = cs.nodeState j)
    (j : Id) (hj : csKnows cs' j) : csKnows cs j ∨ j = i := by
  by_cases hji : j = i
  · exact Or.inr hji
  · exact Or.inl (by rwa [csKnows, ← h j hji])

theorem csKnows_setNode (cs : ClusterState) (i j : Id) (s : NodeState) (h : csKnows (cs.setNode i s) j) :
    csKnows cs j ∨ j = i :=
  csKnows_of_agree (fun j hj => by rw [nodeState_setNode, if_neg hj]) j h

theorem csKnows_initIfAbsent (cs : ClusterState) (i j : Id) (h : csKnows (cs.initIfAbsent i) j) :
    csKnows cs j ∨ j = i :=
  csKnows_of_agree (fun j hj => by rw [nodeState_initIfAbsent, if_neg hj]) j h

theorem knows_updateSelfHeartbeat (n : Node) (j : Id) (h : n.updateSelfHeartbeat.Knows j) :
    n.Knows j ∨ j = n.cfg.selfId :=
  csKnows_of_agree (nodeState_updateSelfHeartbeat_ne n) j h

theorem knows_reportHeartbeatsInDigest (d : Digest) (now : Nat) : ∀ (n : Node) (j : Id),
    (n.reportHeartbeatsInDigest d now).Knows j → n.Knows j ∨ j ∈ d.map (·.1) := by
  intro n j hk
  rcases nodeState_reportHeartbeatsInDigest n d now j with e | ⟨hj, _⟩
  · exact Or.inl (by rwa [Node.Knows, ← e])
  · exact Or.inr hj

/-- `ClusterState::apply_delta` never creates a member -/
theorem csKnows_applyDelta (now : Nat) : ∀ (nds : List (Id × NodeDelta)) (cs cs' : ClusterState) (r : Bool)
    (evs : List (Id × Event)), ClusterState.applyDelta now cs nds = .ok (cs', r, evs) →
    ∀ j, csKnows cs' j → csKnows cs j :=
  fun _ cs _ _ _ h j => applyDelta_invariant_at j (fun o => o.isSome = true → csKnows cs j)
    (fun _ _ _ _ _ _ hP _ _ _ => hP rfl) h id

theorem computeDigest_ids (cs : ClusterState) (sched : List Id) (i : Id)
    (h : i ∈ (cs.computeDigest sched).map (·.1)) : csKnows cs i := by
  rw [← AL.lookup_isSome_iff, lookup_computeDigest] at h
  split at h
  · cases h
  · rwa [Option.isSome_map] at h

theorem computeDelta_ids (C : Compressor) (cs : ClusterState) (digest : Digest) (mtu : Nat)
    (sched order : List Id) (delta : Delta) (h : computeDelta C cs digest mtu sched order = .ok delta)
    (i : Id) (hi : i ∈ delta.nodeDeltas.map (·.1)) : csKnows cs i := by
  obtain ⟨p, hp, rfl⟩ := List.mem_map.1 hi
  obtain ⟨s, hmem, _⟩ := C07_content C cs digest mtu sched order delta h p hp
  exact csKnows_of_mem hmem

/-- member ids a message mentions -/
def Msg.ids : Msg → List Id
  | .syn _ d => d.map (·.1)
  | .synAck d δ => d.map (·.1) ++ δ.nodeDeltas.map (·.1)
  | .ack δ => δ.nodeDeltas.map (·.1)
  | .badCluster => []

def Msg.isSyn : Msg → Bool
  | .syn _ _ => true
  | _ => false

/-- What `process_message` can do to membership, and what it can answer:
* the node afterwards knows only members it knew, itself, or members named in the message — and for a
  SYN of another cluster only the first two;
* every member named in the reply is a member the node knows afterwards;
* a reply is never a SYN; a reply to a SYN of another cluster is `BadCluster`; a reply that carries
  data (SYN-ACK / ACK) is only produced for a SYN of the node's own cluster or for a SYN-ACK. -/
theorem processMessage_membership (C : Compressor) (n n' : Node) (msg : Msg) (now : Nat) (order : List Id)
    (fx : Effects) (h : n.processMessage C msg now order = .ok (n', fx)) :
    n'.cfg = n.cfg ∧
    (∀ j, n'.Knows j → n.Knows j ∨ j = n.cfg.selfId ∨
        ((∀ cid d, msg = .syn cid d → cid = n.cfg.clusterId) ∧ j ∈ msg.ids)) ∧
    (∀ r, fx.reply = some r → (∀ j ∈ r.ids, n'.Knows j) ∧ r.isSyn = false ∧
        (r ≠ .badCluster → (∃ d, msg = .syn n.cfg.clusterId d) ∨ (∃ d δ, msg = .synAck d δ))) := by
  -- after the tick, and after the heartbeats of a digest
  have tick : ∀ j, n.updateSelfHeartbeat.Knows j → n.Knows j ∨ j = n.cfg.selfId ∨
      ((∀ cid d, msg = .syn cid d → cid = n.cfg.clusterId) ∧ j ∈ msg.ids) :=
    fun j hj => (knows_updateSelfHeartbeat n j hj).imp_right Or.inl
  have tickDigest : ∀ digest j, (n.updateSelfHeartbeat.reportHeartbeatsInDigest digest now).Knows j →
      n.Knows j ∨ j = n.cfg.selfId ∨ j ∈ digest.map (·.1) :=
    fun digest j hj => (knows_reportHeartbeatsInDigest digest now _ j hj).elim
      (fun h1 => (knows_updateSelfHeartbeat n j h1).imp_right Or.inl) (fun h1 => Or.inr (Or.inr h1))
  cases msg with
  | syn cid digest =>
    rcases processMessage_syn_eq_ok.1 h with ⟨_, rfl, rfl⟩ | ⟨hcid, rfl, _, delta, hd, rfl⟩
    · exact ⟨rfl, tick, fun r hr => by
        cases hr
        exact ⟨fun _ hj => absurd hj List.not_mem_nil, rfl, fun hne => absurd rfl hne⟩⟩
    · refine ⟨by rw [cfg_reportHeartbeatsInDigest]; rfl, fun j hj => ?_, fun r hr => ?_⟩
      · exact (tickDigest digest j hj).imp_right
          (Or.imp_right fun h1 => ⟨fun c d he => by cases he; exact hcid, h1⟩)
      · cases hr
        refine ⟨fun j hj => ?_, rfl, fun _ => Or.inl ⟨digest, by rw [hcid]⟩⟩
        rcases List.mem_append.1 hj with hj | hj
        · exact computeDigest_ids _ _ j hj
        · exact computeDelta_ids C _ _ _ _ _ delta hd j hj
  | synAck digest delta =>
    obtain ⟨cs', reset, evs, d, ha, rfl, hd, rfl⟩ := processMessage_synAck_eq_ok.1 h
    refine ⟨by rw [cfg_reportHeartbeatsInDigest]; rfl, fun j hj => ?_, fun r hr => ?_⟩
    · exact (tickDigest digest j (csKnows_applyDelta now _ _ _ _ _ ha j hj)).imp_right
        (Or.imp_right fun h1 => ⟨nofun, List.mem_append.2 (Or.inl h1)⟩)
    · cases hr
      exact ⟨fun j hj => computeDelta_ids C _ _ _ _ _ d hd j hj, rfl, fun _ => Or.inr ⟨digest, delta, rfl⟩⟩
  | ack delta =>
    obtain ⟨cs', reset, evs, ha, rfl, rfl⟩ := processMessage_ack_eq_ok.1 h
    exact ⟨rfl, fun j hj => tick j (csKnows_applyDelta now _ _ _ _ _ ha j hj), fun r hr => nomatch hr⟩
  | badCluster =>
    cases h
    exact ⟨rfl, tick, fun r hr => nomatch hr⟩

/-- Several nodes — of any number of clusters — on one network. Messages are never removed from
`msgs`: a message that is never delivered is lost, one delivered twice is duplicated, any order is a
reordering. A reply is addressed to the node the request came from. -/
structure Net where
  nodes : List Node
  msgs : List (Nat × Nat × Msg)

inductive NetStep (C : Compressor) : Net → Net → Prop
  | initiate (σ : Net) (i j : Nat) (n : Node) (hn : σ.nodes[i]? = some n) (now : Nat) :
      NetStep C σ { σ with msgs := σ.msgs ++ [(i, j, n.createSyn now)] }
  | deliver (σ : Net) (i j : Nat) (m : Msg) (hm : (i, j, m) ∈ σ.msgs) (n n' : Node)
      (hn : σ.nodes[j]? = some n) (now : Nat) (order : List Id) (fx : Effects)
      (hp : n.processMessage C m now order = .ok (n', fx)) :
      NetStep C σ { nodes := σ.nodes.set j n',
                    msgs := σ.msgs ++ (match fx.reply with | some r => [(j, i, r)] | none => []) }
  | localStep (σ : Net) (j : Nat) (n n' : Node) (hn : σ.nodes[j]? = some n) (hcfg : n'.cfg = n.cfg)
      (hk : ∀ x, n'.Knows x → n.Knows x ∨ x = n.cfg.selfId) :
      -- any local activity (writes, liveness evaluation, GC of keys and members, …): adds no member
      NetStep C σ { σ with nodes := σ.nodes.set j n' }

inductive NetReach (C : Compressor) (σ₀ : Net) : Net → Prop
  | init : NetReach C σ₀ σ₀
  | step (σ σ' : Net) : NetReach C σ₀ σ → NetStep C σ σ' → NetReach C σ₀ σ'

/-- `cl` says which cluster a member id belongs to; `cid k`, `sid k` are the configured cluster id and
own id of node `k`. -/
structure NetInv (cl : Id → Bytes) (cid : Nat → Bytes) (sid : Nat → Id) (σ : Net) : Prop where
  cfg : ∀ k n, σ.nodes[k]? = some n → n.cfg.clusterId = cid k ∧ n.cfg.selfId = sid k ∧ cl (sid k) = cid k
  known : ∀ k n, σ.nodes[k]? = some n → ∀ x, n.Knows x → cl x = cid k
  msgs : ∀ i j m, (i, j, m) ∈ σ.msgs →
      (∀ x ∈ m.ids, cl x = cid i) ∧ (∀ c d, m = .syn c d → c = cid i) ∧
      (m.isSyn = false → m ≠ .badCluster → cid j = cid i)

/-- The clause about the messages is the caller's. -/
theorem netInv_set {cl : Id → Bytes} {cid : Nat → Bytes} {sid : Nat → Id} {σ : Net} (hinv : NetInv cl cid sid σ)
    {j : Nat} {n n' : Node} (hn : σ.nodes[j]? = some n) (hcfg : n'.cfg = n.cfg)
    (hk : ∀ x, n'.Knows x → cl x = cid j) {msgs : List (Nat × Nat × Msg)}
    (hm : ∀ i j m, (i, j, m) ∈ msgs → (∀ x ∈ m.ids, cl x = cid i) ∧ (∀ c d, m = .syn c d → c = cid i) ∧
      (m.isSyn = false → m ≠ .badCluster → cid j = cid i)) :
    NetInv cl cid sid ⟨σ.nodes.set j n', msgs⟩ := by
  refine ⟨fun k nk hk' => ?_, fun k nk hk' x hx => ?_, hm⟩
  · rcases getElemOpt_set_cases hk' with ⟨rfl, rfl⟩ | ⟨_, hk''⟩
    · rw [hcfg]; exact hinv.cfg k n hn
    · exact hinv.cfg k nk hk''
  · rcases getElemOpt_set_cases hk' with ⟨rfl, rfl⟩ | ⟨_, hk''⟩
    · exact hk x hx
    · exact hinv.known k nk hk'' x hx

theorem netInv_step (C : Compressor) (cl : Id → Bytes) (cid : Nat → Bytes) (sid : Nat → Id) (σ σ' : Net)
    (hinv : NetInv cl cid sid σ) (hstep : NetStep C σ σ') : NetInv cl cid sid σ' := by
  cases hstep with
  | initiate i j n hn now =>
    refine ⟨hinv.cfg, hinv.known, fun a b m hm => ?_⟩
    rcases List.mem_append.1 hm with hm | hm
    · exact hinv.msgs a b m hm
    · cases List.mem_singleton.1 hm
      refine ⟨fun x hx => hinv.known i n hn x (computeDigest_ids _ _ x hx), fun c d he => ?_, nofun⟩
      cases he; exact (hinv.cfg i n hn).1
  | deliver i j m hm n n' hn now order fx hp =>
    obtain ⟨hcfg, hknows, hreply⟩ := processMessage_membership C n n' m now order fx hp
    obtain ⟨hcj, hsj, hclj⟩ := hinv.cfg j n hn
    obtain ⟨hmids, hmsyn, hmdata⟩ := hinv.msgs i j m hm
    -- members named in the message belong to the receiver's cluster whenever it looks at them
    have hsame : (∀ c d, m = .syn c d → c = n.cfg.clusterId) → ∀ x ∈ m.ids, cid j = cid i := by
      intro hcond x hx
      cases m with
      | syn c d => rw [← hmsyn c d rfl, hcond c d rfl, hcj]
      | synAck d δ => exact hmdata rfl nofun
      | ack δ => exact hmdata rfl nofun
      | badCluster => cases hx
    have hknown' : ∀ x, n'.Knows x → cl x = cid j := by
      intro x hx
      rcases hknows x hx with h1 | h1 | ⟨hcond, hx'⟩
      · exact hinv.known j n hn x h1
      · rw [h1, hsj]; exact hclj
      · rw [hsame hcond x hx']; exact hmids x hx'
    refine netInv_set hinv hn hcfg hknown' (fun a b m' hm' => ?_)
    rcases List.mem_append.1 hm' with hm' | hm'
    · exact hinv.msgs a b m' hm'
    · cases hr : fx.reply with
      | none => rw [hr] at hm'; cases hm'
      | some r =>
        rw [hr] at hm'
        cases List.mem_singleton.1 hm'
        obtain ⟨hrids, hrsyn, hrdata⟩ := hreply m' hr
        refine ⟨fun x hx => hknown' x (hrids x hx), fun c d he => ?_, fun _ hnb => ?_⟩
        · rw [he] at hrsyn; cases hrsyn
        · rcases hrdata hnb with ⟨d, rfl⟩ | ⟨d, δ, rfl⟩
          · rw [← hmsyn _ d rfl, hcj]
          · exact (hmdata rfl nofun).symm
  | localStep j n n' hn hcfg hk =>
    obtain ⟨_, hsj, hclj⟩ := hinv.cfg j n hn
    refine netInv_set hinv hn hcfg (fun x hx => ?_) hinv.msgs
    rcases hk x hx with h1 | h1
    · exact hinv.known j n hn x h1
    · rw [h1, hsj]; exact hclj

/-- **C16 (clusters never mix, under any schedule).** Take any number of nodes of any number of
clusters on one network, each initially knowing only members of its own cluster, and any schedule of
SYNs sent to anybody (seeds or addresses shared between clusters), deliveries in any order, any
number of times or never, and local activity. Then at every moment every member a node holds a copy
of — hence every heartbeat and key-value it holds — belongs to the node's own cluster: nothing ever
crosses. (Network assumption: a reply goes to the node the request came from.) -/
theorem C16_clusters_never_mix (C : Compressor) (cl : Id → Bytes) (cid : Nat → Bytes) (sid : Nat → Id)
    (σ₀ σ : Net) (h0 : NetInv cl cid sid σ₀) (hreach : NetReach C σ₀ σ) :
    ∀ k n, σ.nodes[k]? = some n → ∀ x, n.Knows x → cl x = cid k := by
  have : NetInv cl cid sid σ := by
    induction hreach with
    | init => exact h0
    | step a b _ hs ih => exact netInv_step C cl cid sid a b ih hs
  exact this.known

/-! non-vacuity: two one-node clusters `a` and `b` whose nodes gossip with each other -/
def isoIdA : Id := ⟨[110, 49], 0, .v4 [10, 0, 0, 1] 7000⟩

def isoIdB : Id := ⟨[110, 50], 0, .v4 [10, 0, 0, 2] 7000⟩

def isoFd : FDConfig := ⟨8, 1, 1000, 100, 50, 400⟩

def isoNodeA : Node := { cfg := { selfId := isoIdA, clusterId := [97], grace := 40, fd := isoFd }, cs := ({} : ClusterState).setNode isoIdA { heartbeat := 1 } }

def isoNodeB : Node := { cfg := { selfId := isoIdB, clusterId := [98], grace := 40, fd := isoFd }, cs := ({} : ClusterState).setNode isoIdB { heartbeat := 1 } }

def isoCl (i : Id) : Bytes := if i = isoIdA then [97] else [98]

def isoCid (k : Nat) : Bytes := if k = 0 then [97] else [98]

def isoSid (k : Nat) : Id := if k = 0 then isoIdA else isoIdB

theorem iso_knowsA (x : Id) (h : isoNodeA.Knows x) : x = isoIdA :=
  (csKnows_setNode {} isoIdA x _ h).resolve_left Bool.false_ne_true

theorem iso_knowsB (x : Id) (h : isoNodeB.Knows x) : x = isoIdB :=
  (csKnows_setNode {} isoIdB x _ h).resolve_left Bool.false_ne_true

example : NetInv isoCl isoCid isoSid ⟨[isoNodeA, isoNodeB], []⟩ := by
  refine ⟨fun k n hk => ?_, fun k n hk x hx => ?_, fun _ _ _ hm => absurd hm List.not_mem_nil⟩
  · rcases k with _ | _ | k <;> cases hk
    · exact ⟨rfl, rfl, rfl⟩
    · exact ⟨rfl, rfl, rfl⟩
  · rcases k with _ | _ | k <;> cases hk
    · rw [iso_knowsA x hx]; rfl
    · rw [iso_knowsB x hx]; rfl

/-- node B's SYN reaches node A of the other cluster: A answers `BadCluster` — a step of the network -/
example (C : Compressor) : ∃ σ', NetStep C ⟨[isoNodeA, isoNodeB], [(1, 0, isoNodeB.createSyn 5)]⟩ σ' :=
  ⟨_, NetStep.deliver _ 1 0 (isoNodeB.createSyn 5) (by simp) isoNodeA _ rfl 5 [] _
      (C16_bad_cluster C isoNodeA [98] _ 5 [] (by decide))⟩

end Network

end Chitchat
