/-
Props/C14.lean — sender and receiver agree on reset versus incremental update.

Setting: `s` is the sender's copy of a member, `r` the receiver's copy of the same member; the
receiver's digest entry is `(r.lastGc, r.maxVersion)`. No invariant whatsoever is assumed on `s`
or `r` (watermark above max version, entries above max, duplicate versions: all allowed).
The node delta is `senderNodeDelta s from n setMax` for *any* truncation point `n` and either
outcome of the `SetMaxVersion` admission (`C07_content` shows `computeDelta` emits exactly these).
-/
import ChitchatModel.Lemmas.Sender
import ChitchatModel.Props.C04
namespace Chitchat
open NodeState ClusterState

/-- **C14 (offer).** A member is offered iff the sender's copy is ahead of the digest, and the
announced start version is the one of `senderFrom`. -/
theorem C14_offer_iff (i : Id) (s : NodeState) (dGc dMax : Nat) :
    (∃ sn, staleNodeOf i s dGc dMax = some sn ∧ sn.fromExcl = senderFrom s dGc dMax ∧ sn.state = s ∧ sn.id = i)
      ↔ dMax < s.maxVersion := by
  constructor
  · rintro ⟨sn, hsn, _⟩
    exact (staleNodeOf_eq_some hsn).2.2.2.1
  · intro hlt
    unfold staleNodeOf
    rw [if_neg (Nat.not_le.2 hlt), if_neg (Nat.not_le.2 (Nat.lt_of_le_of_lt (senderFrom_le s dGc dMax) hlt))]
    exact ⟨_, rfl, rfl, rfl, rfl⟩

/-- **C14 (reset iff).** The delta computed from the receiver's own digest is classified as a reset
exactly when both the receiver's max version and watermark are below the sender's watermark, and
then it starts from version 0; otherwise it starts at the receiver's max version and is never
"from the future" nor "inapplicable": the only possible refusal is the harmless "nothing new" one
of `C14_never_refused`. -/
theorem C14_reset_iff (s r : NodeState) (n : Nat) (b : Bool) :
    let nd := senderNodeDelta s (senderFrom s r.lastGc r.maxVersion) n b
    (r.checkDeltaStatus nd = .applyAfterReset ↔ (r.lastGc < s.lastGc ∧ r.maxVersion < s.lastGc)) ∧
    (r.checkDeltaStatus nd = .applyAfterReset → nd.fromExcl = 0) ∧
    (r.checkDeltaStatus nd ≠ .applyAfterReset →
        nd.fromExcl = r.maxVersion ∧ (nd.lastGc ≤ r.lastGc ∨ nd.lastGc ≤ r.maxVersion)) := by
  intro nd
  have hfrom : nd.fromExcl = senderFrom s r.lastGc r.maxVersion := rfl
  have hgc : nd.lastGc = s.lastGc := rfl
  simp only [ne_eq, checkDeltaStatus_reset_iff, hfrom, hgc, senderFrom]
  -- `senderFrom` is 0 under the reset condition and the receiver's max version otherwise
  grind

/-- **C14 (never refused).** Whenever the sender's copy is ahead and the delta carries anything
besides the bare member header (at least one key-value, or the `SetMaxVersion` op of a member with
no stale key-value), the unchanged receiver does not refuse it. -/
theorem C14_never_refused (s r : NodeState) (n : Nat) (b : Bool)
    (hahead : r.maxVersion < s.maxVersion) :
    let nd := senderNodeDelta s (senderFrom s r.lastGc r.maxVersion) n b
    (nd.kvs ≠ [] ∨ (b = true ∧ s.staleKvs (senderFrom s r.lastGc r.maxVersion) = [])) →
    r.checkDeltaStatus nd ≠ .reject := by
  intro nd hcarry
  obtain ⟨_, _, hnz⟩ := C14_reset_iff s r n b
  by_cases hr : r.checkDeltaStatus nd = .applyAfterReset
  · rw [hr]; nofun
  · obtain ⟨hf, hcompat⟩ := hnz hr
    have hf' : senderFrom s r.lastGc r.maxVersion = r.maxVersion := hf
    have hmax : r.maxVersion < nd.maxVersion := by
      rcases senderNodeDelta_max_cases s (senderFrom s r.lastGc r.maxVersion) n b with ⟨y, hl, e⟩ | ⟨hnil, e⟩
      · -- the announced max version is that of the last key-value, which is above `from = r.max`
        rw [e, ← hf']
        exact senderNodeDelta_kvs_gt s _ n b y (List.mem_of_getLast? hl)
      · -- no key-value: the announced max version is the sender's
        rcases hcarry with hk | hc
        · exact absurd hnil hk
        · rw [e, if_pos hc]
          exact hahead
    rw [(checkDeltaStatus_apply_iff r nd).2 ⟨Nat.le_of_eq hf, hcompat, hmax⟩]
    nofun

/-- **C14 (strict progress).** Applying the delta never aborts; if it is not refused, the receiver's
(GC watermark, max version) strictly increases; if it is refused, the receiver is unchanged. -/
theorem C14_strict_progress (s r : NodeState) (n : Nat) (b : Bool) (now : Nat) :
    let nd := senderNodeDelta s (senderFrom s r.lastGc r.maxVersion) n b
    ∃ r' evs, NodeState.applyDelta r nd now = .ok (r', r.checkDeltaStatus nd, evs) ∧
      (r.checkDeltaStatus nd = .reject → r' = r) ∧
      (r.checkDeltaStatus nd ≠ .reject → frontierLt r.frontier r'.frontier) := by
  intro nd
  have hwf : nd.KvsLeMax := senderNodeDelta_kvsLeMax s _ n b
  obtain ⟨r', evs, h, _, hrej, hlt⟩ := C04_frontier_monotone r nd now hwf
  exact ⟨r', evs, h, hrej, hlt⟩

/-- **C14 (non-empty, space permitting).** If the sender is ahead and the budget admits the header
plus the next op, the delta is not refused and the receiver strictly advances. -/
theorem C14_nonempty_progress (s r : NodeState) (n : Nat) (now : Nat)
    (hahead : r.maxVersion < s.maxVersion) (hn : 1 ≤ n) :
    let nd := senderNodeDelta s (senderFrom s r.lastGc r.maxVersion) n true
    ∃ r' st evs, NodeState.applyDelta r nd now = .ok (r', st, evs) ∧ frontierLt r.frontier r'.frontier := by
  intro nd
  obtain ⟨r', evs, h, _, hlt⟩ := C14_strict_progress s r n true now
  refine ⟨r', _, evs, h, hlt ?_⟩
  apply C14_never_refused s r n true hahead
  by_cases he : s.staleKvs (senderFrom s r.lastGc r.maxVersion) = []
  · exact Or.inr ⟨rfl, he⟩
  · exact Or.inl fun h =>
      he ((List.take_eq_nil_iff.1 (List.map_eq_nil_iff.1 h)).resolve_left (Nat.ne_of_gt hn))

/-! ### Non-vacuity -/

-- sender (gc 3, max 5) with entries at versions 4 and 5; receiver mid-reset (gc 4 > max 2)
example :
    let s : NodeState := ⟨9, [([1], ⟨[7], 4, .set⟩), ([2], ⟨[], 5, .deleted 3⟩)], 5, 3⟩
    let r : NodeState := ⟨2, [], 2, 4⟩
    r.maxVersion < s.maxVersion ∧ senderFrom s r.lastGc r.maxVersion = 2 ∧
    r.checkDeltaStatus (senderNodeDelta s 2 1 false) = .apply := by decide

-- a receiver that must be reset
example :
    let s : NodeState := ⟨9, [([1], ⟨[7], 4, .set⟩)], 5, 3⟩
    let r : NodeState := ⟨2, [([1], ⟨[6], 1, .set⟩)], 1, 0⟩
    senderFrom s r.lastGc r.maxVersion = 0 ∧
    r.checkDeltaStatus (senderNodeDelta s 0 1 false) = .applyAfterReset := by decide

end Chitchat
