/-
Props/C09.lean — malformed or hostile datagrams cannot crash a node.

The decoder model is written with checked accesses only (`decU8`, `decU16`, `decU64`, `takeN`, …
return `none` instead of indexing out of bounds), mirroring one-to-one the `?`-propagated errors of
the Rust decoder; its agreement with the real decoder on malformed inputs (error vs. value, and no
panic) is what the `wire` correspondence suite checks. The theorems below cover what happens
*after* a datagram decoded: whatever it contains, applying it cannot abort and cannot move a
frontier backwards.
-/
import ChitchatModel.Lemmas.Builder
import ChitchatModel.Lemmas.ClusterWF
import ChitchatModel.Lemmas.EmitOk
import ChitchatModel.Lemmas.FD
import ChitchatModel.Props.C04
namespace Chitchat

/-- **C09 (decoded deltas are well formed).** Every delta that `Delta::deserialize` returns — for any
byte string and any compressor behaviour — has pairwise distinct members, strictly increasing
key-value versions per member and no key-value above the announced max version. -/
theorem C09_decoded_delta_wf (C : Compressor) (b rest : Bytes) (d : Delta)
    (h : decDelta C b = some (d, rest)) :
    (∀ p ∈ d.nodeDeltas, p.2.WF) ∧ (d.nodeDeltas.map (·.1)).Nodup := by
  revert h
  fun_cases decDelta C b <;> intro h <;> cases h
  have hinv := DeltaBuilder.inv_applyOps DeltaBuilder.inv_empty ‹_›
  rw [DeltaBuilder.finish_nodeDeltas]
  exact ⟨hinv.wf, hinv.nodup⟩

theorem decMsg_delta {C : Compressor} {b rest : Bytes} {m : Msg} (h : decMsg C b = some (m, rest))
    {d : Delta} (hm : m = .ack d ∨ ∃ dg, m = .synAck dg d) :
    ∃ b' rest', decDelta C b' = some (d, rest') := by
  revert h
  -- one case per path through `decMsg`: it returns `none`, or a message whose delta `decDelta` returned
  fun_cases decMsg C b <;> intro h <;> cases h <;> rcases hm with hm | ⟨_, hm⟩ <;> cases hm <;>
    exact ⟨_, _, ‹_›⟩

/-- The same as `C09_decoded_delta_wf`, for the delta of a decoded ACK or SYN-ACK. -/
theorem C09_decoded_msg_wf (C : Compressor) (b rest : Bytes) (m : Msg) (h : decMsg C b = some (m, rest)) :
    ∀ d, (m = .ack d ∨ ∃ dg, m = .synAck dg d) →
      (∀ p ∈ d.nodeDeltas, p.2.WF) ∧ (d.nodeDeltas.map (·.1)).Nodup := by
  intro d hm
  obtain ⟨b', rest', hd⟩ := decMsg_delta h hm
  exact C09_decoded_delta_wf C b' rest' d hd

/-- **C09 (no abort on apply).** Applying any decoded delta to any cluster state cannot trip the
`max_version` assertion nor the monotonic-property assertion. -/
theorem C09_apply_decoded_never_panics (C : Compressor) (b rest : Bytes) (d : Delta)
    (h : decDelta C b = some (d, rest)) (cs : ClusterState) (now : Nat) :
    ∃ r, ClusterState.applyDelta now cs d.nodeDeltas = .ok r :=
  C04_cluster_apply_no_panic now _ (fun p hp => ((C09_decoded_delta_wf C b rest d h).1 p hp).leMax) cs

/-- **C09 (frontiers stay monotone).** For any node delta of a decoded delta and any copy, the
frontier does not decrease. -/
theorem C09_decoded_frontier_monotone (C : Compressor) (b rest : Bytes) (d : Delta)
    (h : decDelta C b = some (d, rest)) (p : Id × NodeDelta) (hp : p ∈ d.nodeDeltas)
    (s : NodeState) (now : Nat) :
    ∃ s' evs, s.applyDelta p.2 now = .ok (s', s.checkDeltaStatus p.2, evs) ∧
      NodeState.frontierLe s.frontier s'.frontier := by
  obtain ⟨s', evs, h1, h2, _, _⟩ :=
    C04_frontier_monotone s p.2 now ((C09_decoded_delta_wf C b rest d h).1 p hp).leMax
  exact ⟨s', evs, h1, h2⟩

/-- The op stream `Node, KeyValue v5, SetMaxVersion 1`, which aborted the receiver before the repair
F-3, is refused by the decoder's builder… -/
example (i : Id) :
    DeltaBuilder.applyOps {} [.node i 0 0, .kv ⟨[1], [2], 5, .set⟩, .setMax 1] = none := rfl

/-- …while the builder of the tree before the repair accepted it, and applying the result aborts. -/
example :
    (NodeState.applyDelta {} ⟨0, 0, [⟨[1], [2], 5, .set⟩], 1⟩ 0) = .error .applyDeltaMaxVersion := by
  rfl

open Node ClusterState NodeState

/-- A message whose deltas are well formed (every decoded message is: `C09_decoded_msg_wf`). -/
def MsgWF : Msg → Prop
  | .syn _ _ => True
  | .synAck _ d => ∀ p ∈ d.nodeDeltas, p.2.WF
  | .ack d => ∀ p ∈ d.nodeDeltas, p.2.WF
  | .badCluster => True

/-- The reply budget of a SYN is computable: the node's own digest leaves at least 100 bytes. -/
def SynBudgetOk (n : Node) (msg : Msg) (now : Nat) : Prop :=
  match msg with
  | .syn cid digest =>
    cid = n.cfg.clusterId →
      let n1 := n.updateSelfHeartbeat.reportHeartbeatsInDigest digest now
      n.cfg.headerReserve + digestLen (n1.cs.computeDigest (n1.scheduledForDeletion now)) + 100 ≤ maxDatagram
  | _ => True

theorem wfCluster_applyDelta_ok (now : Nat) (delta : Delta) (hwf : ∀ p ∈ delta.nodeDeltas, p.2.WF)
    (cs : ClusterState) (hcs : WFCluster cs) :
    ∃ r, ClusterState.applyDelta now cs delta.nodeDeltas = .ok r ∧ WFCluster r.1 := by
  obtain ⟨r, hr⟩ := C04_cluster_apply_no_panic now delta.nodeDeltas (fun p hp => (hwf p hp).leMax) cs
  exact ⟨r, hr, wfCluster_applyDelta hwf hcs hr⟩

/-- A reply budget that leaves 100 bytes of the datagram is one `computeDelta_ok` accepts. -/
theorem replyBudget_ok {used : Nat} (h : used + 100 ≤ maxDatagram) :
    100 ≤ maxDatagram - used ∧ maxDatagram - used ≤ 65539 :=
  ⟨Nat.le_sub_of_add_le' h, Nat.le_trans (Nat.sub_le ..) (by decide)⟩

/-- **C09 (whole message handler).** `process_message` — heartbeat reports, delta application and
the computation of the reply with its byte budget, block stream and builder — cannot abort on a
well-formed cluster state and a well-formed message (every decoded message is one), whatever the
digest claims, for any compressor and shuffle order; and it leaves the cluster state well formed. -/
theorem C09_process_message_never_panics (C : Compressor) (n : Node) (msg : Msg) (now : Nat) (order : List Id)
    (hcs : WFCluster n.cs) (hmsg : MsgWF msg) (hres : n.cfg.headerReserve + 100 ≤ maxDatagram)
    (hbud : SynBudgetOk n msg now) :
    ∃ r, n.processMessage C msg now order = .ok r ∧ WFCluster r.1.cs := by
  have h0 := wf_updateSelfHeartbeat n hcs
  cases msg with
  | syn cid digest =>
    by_cases hcid : cid = n.cfg.clusterId
    · -- the node after the heartbeats of the digest is still well formed
      generalize hn1 : n.updateSelfHeartbeat.reportHeartbeatsInDigest digest now = n1
      have h1 : WFCluster n1.cs := hn1 ▸ wf_reportHeartbeatsInDigest _ digest now h0
      have hb : n.cfg.headerReserve + digestLen (n1.cs.computeDigest (n1.scheduledForDeletion now)) + 100
          ≤ maxDatagram := hn1 ▸ hbud hcid
      obtain ⟨delta, hd⟩ := computeDelta_ok C _ h1 digest _ (replyBudget_ok hb).1 (replyBudget_ok hb).2
        (n1.scheduledForDeletion now) order
      -- the handler subtracts the header and the digest one after the other
      rw [← Nat.sub_sub] at hd
      exact ⟨_, processMessage_syn_eq_ok.2 (Or.inr ⟨hcid, hn1.symm, Nat.le_of_add_right_le hb, delta, hd, rfl⟩), h1⟩
    · exact ⟨_, processMessage_syn_eq_ok.2 (Or.inl ⟨hcid, rfl, rfl⟩), h0⟩
  | synAck digest delta =>
    have h1 := wf_reportHeartbeatsInDigest _ digest now h0
    obtain ⟨⟨cs', b, evs⟩, hr, h2⟩ := wfCluster_applyDelta_ok now delta hmsg _ h1
    obtain ⟨d, hd⟩ := computeDelta_ok C cs' h2 digest _ (replyBudget_ok hres).1 (replyBudget_ok hres).2 _ order
    exact ⟨_, processMessage_synAck_eq_ok.2 ⟨cs', b, evs, d, hr, rfl, hd, rfl⟩, h2⟩
  | ack delta =>
    obtain ⟨⟨cs', b, evs⟩, hr, h2⟩ := wfCluster_applyDelta_ok now delta hmsg _ h0
    exact ⟨_, processMessage_ack_eq_ok.2 ⟨cs', b, evs, hr, rfl, rfl⟩, h2⟩
  | badCluster => exact ⟨_, rfl, h0⟩

/-! ### `WFCluster` is what every reachable node satisfies

It holds initially and is preserved by every local write, by key GC, by the liveness pass (which
only removes members) and — the theorem above — by every processed message. (The external catch-up
`reset_node_state_if_update` installs application-supplied key-values; it preserves `WFCluster` only
if the application supplies pairwise distinct versions, which is its contract.) -/

theorem C09_wf_init (cfg : Config) (initial : List (Bytes × Bytes)) : WFCluster (Node.init cfg initial).1.cs := by
  unfold Node.init
  apply wfCluster_setNode wfCluster_empty
  exact List.foldlRecOn initial _ (motive := fun (acc : NodeState × List Event) => WFCopy acc.1) (wfCopy_empty 1 0)
    (fun acc h kv _ => wfCopy_set h _ _)

theorem C09_wf_local_write (n : Node) (s' : NodeState) (h : WFCluster n.cs) (hs' : WFCopy s') :
    WFCluster (n.cs.setNode n.cfg.selfId s') := wfCluster_setNode h _ hs'

theorem C09_wf_gcKeys (n : Node) (now : Nat) (h : WFCluster n.cs) : WFCluster (n.gcKeys now).cs :=
  wfCluster_gcKeys h _ _

theorem C09_wf_updateNodesLiveness (n : Node) (now : Nat) (h : WFCluster n.cs) :
    WFCluster (n.updateNodesLiveness now).cs :=
  have hp : (n.evalLiveness now).publishStep.cs = n.cs := (publishStep_spec _).2.2.1
  gcDeadNodes_induct (P := WFCluster) _ now (hp ▸ h) (fun _ hcs i _ => wfCluster_removeNode hcs i)

end Chitchat
