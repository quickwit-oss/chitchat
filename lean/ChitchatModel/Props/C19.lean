/-
Props/C19.lean — the gossip server survives transport faults and stops cleanly.

*Partial by nature*: tokio's `select!`, the real mutex, real UDP and the OS are outside any Lean
model. The theorems are about the loop's decision logic (`Model/Server.lean`), which the `server`
correspondence suite ties to the real `spawn_chitchat` loop driven through a scripted `Transport`
under the paused clock.
-/
import ChitchatModel.Model.Server
import ChitchatModel.Model.Udp
namespace Chitchat

def noPanic (script : Nat → SendResult) : Prop := ∀ k, script k ≠ .panic

theorem send_of_noPanic {script : Nat → SendResult} (h : noPanic script) (s : SrvState) :
    s.send script = { s with sends := s.sends + 1 } := by
  unfold SrvState.send
  have := h s.sends
  cases hs : script s.sends with
  | ok => rfl
  | err => rfl
  | panic => exact absurd hs this

theorem tick_fold {script : Nat → SendResult} (h : noPanic script) (l : List Nat) (s : SrvState)
    (hr : s.status = .running) :
    l.foldl (fun st _ => if st.status = .running then st.send script else st) s =
      { s with sends := s.sends + l.length } := by
  induction l generalizing s with
  | nil => rfl
  | cons a t ih =>
    rw [List.foldl_cons, if_pos hr, send_of_noPanic h, ih { s with sends := s.sends + 1 } hr, List.length_cons]
    simp only [Nat.add_assoc, Nat.add_comm 1]

/-- A step of the running loop when no send panics: the outcomes of the sends are not looked at. -/
theorem srvStep_running (seeds : Nat) {script : Nat → SendResult} (h : noPanic script) (s : SrvState)
    (hr : s.status = .running) (e : SrvEvent) :
    srvStep seeds script s e =
      match e with
      | .tick => { s with heartbeat := s.heartbeat + 1, sends := s.sends + seeds }
      | .recvSyn _ => { s with heartbeat := s.heartbeat + 1, sends := s.sends + 1 }
      | .recvAck => { s with heartbeat := s.heartbeat + 1 }
      | .recvFatal => { s with status := .stoppedErr }
      | .cmdGossip => { s with sends := s.sends + 1 }
      | .cmdShutdown => { s with status := .stoppedOk }
      | .recvUndecodable | .userLock => s := by
  unfold srvStep
  rw [if_neg (not_not_intro hr)]
  cases e with
  | tick => simp only; rw [tick_fold h _ { s with heartbeat := s.heartbeat + 1 } hr, List.length_range]
  | recvSyn c => exact send_of_noPanic h _
  | cmdGossip => exact send_of_noPanic h _
  | _ => rfl

/-- **C19 (failed sends are harmless).** Whatever mix of successful and failed sends (oversized
datagram, unreachable peer) — anything but a panic — the loop takes exactly the same decisions as
with all sends succeeding: same status, same heartbeat, same number of send attempts. -/
theorem C19_send_errors_harmless (seeds : Nat) (script : Nat → SendResult) (h : noPanic script)
    (events : List SrvEvent) :
    srvRun seeds script events = srvRun seeds (fun _ => .ok) events := by
  unfold srvRun
  congr 1
  funext s e
  by_cases hr : s.status = .running
  · have hok : noPanic (fun _ => SendResult.ok) := fun _ => nofun
    rw [srvStep_running seeds h s hr, srvStep_running seeds hok s hr]
  · unfold srvStep; rw [if_pos hr, if_pos hr]

/-- **C19 (the node keeps heartbeating and answering).** While running, every tick and every
received message strictly increases the local heartbeat, whatever the send outcomes. -/
theorem C19_heartbeat_progress (seeds : Nat) (script : Nat → SendResult) (h : noPanic script)
    (s : SrvState) (hr : s.status = .running) (e : SrvEvent)
    (he : e = .tick ∨ (∃ c, e = .recvSyn c) ∨ e = .recvAck) :
    (srvStep seeds script s e).heartbeat = s.heartbeat + 1 ∧ (srvStep seeds script s e).status = .running := by
  rw [srvStep_running seeds h s hr]
  rcases he with rfl | ⟨c, rfl⟩ | rfl <;> exact ⟨rfl, hr⟩

/-- Failed sends, undecodable datagrams and user lock acquisitions never stop the loop. -/
theorem C19_loop_survives (seeds : Nat) (script : Nat → SendResult) (h : noPanic script)
    (s : SrvState) (hr : s.status = .running) (e : SrvEvent)
    (he : e ≠ .recvFatal ∧ e ≠ .cmdShutdown) :
    (srvStep seeds script s e).status = .running := by
  rw [srvStep_running seeds h s hr]
  cases e with
  | recvFatal => exact absurd rfl he.1
  | cmdShutdown => exact absurd rfl he.2
  | _ => exact hr

/-- **C19 (fatal receive error).** It ends the loop with an error, reported by the watcher. -/
theorem C19_fatal_recv_terminates_err (seeds : Nat) (script : Nat → SendResult) (s : SrvState)
    (hr : s.status = .running) : (srvStep seeds script s .recvFatal).status = .stoppedErr := by
  unfold srvStep; rw [if_neg (not_not_intro hr)]

/-- **C19 (shutdown).** A shutdown request always completes, with `Ok`. -/
theorem C19_shutdown_terminates_ok (seeds : Nat) (script : Nat → SendResult) (s : SrvState)
    (hr : s.status = .running) : (srvStep seeds script s .cmdShutdown).status = .stoppedOk := by
  unfold srvStep; rw [if_neg (not_not_intro hr)]

/-- **C19 (terminated stays terminated).** -/
theorem C19_terminated_is_final (seeds : Nat) (script : Nat → SendResult) (s : SrvState) (e : SrvEvent)
    (h : s.status ≠ .running) : srvStep seeds script s e = s := by
  unfold srvStep; rw [if_pos h]

/-- **C19 (panic is reported).** A panic inside the loop (here: injected through a send) is visible
as `panicked`, which the termination watcher turns into the "Chitchat server panicked" error. -/
theorem C19_panic_reported (s : SrvState) (script : Nat → SendResult) (h : script s.sends = .panic) :
    (s.send script).status = .panicked := by
  unfold SrvState.send; rw [h]

/-! ### The UDP socket wrapper (`transport/udp.rs`) -/

/-- **C19 (a failed send leaves no trace).** What `UdpSocket::send` puts on the wire, and whether it
succeeds, does not depend on the state any earlier call — failed or not — left the socket in. -/
theorem C19_udp_send_history_free (C : Compressor) (s s' : UdpSock) (m : Msg) (dest : Dest) :
    (s.send C m dest).map (·.2) = (s'.send C m dest).map (·.2) := by
  unfold UdpSock.send
  cases encMsg C m <;> rfl

theorem osAccepts_iff (dest : Dest) (b : Bytes) :
    osAccepts dest b = true ↔ dest = .peer ∧ b.length ≤ maxDatagram := by
  rw [osAccepts, Bool.and_eq_true, beq_iff_eq, decide_eq_true_iff]

/-- **C19 (exactly the message).** A successful send puts exactly the serialization of that message
on the wire; it fails exactly when the destination is unreachable or the serialization exceeds
65 507 bytes, and then nothing is sent. -/
theorem C19_udp_send_exact (C : Compressor) (s : UdpSock) (m : Msg) (dest : Dest) (b : Bytes)
    (henc : encMsg C m = .ok b) :
    ∃ s', s.send C m dest = .ok (s', if dest = .peer ∧ b.length ≤ maxDatagram then some b else none) := by
  unfold UdpSock.send
  rw [henc]
  refine ⟨{ bufSend := b }, ?_⟩
  show Except.ok (({ bufSend := b } : UdpSock), if osAccepts dest b = true then some b else none) = _
  simp only [osAccepts_iff]

/-- After any send, a later small message to a reachable peer is sent: failures do not accumulate. -/
theorem C19_udp_send_after_failure (C : Compressor) (s : UdpSock) (m1 m2 : Msg) (d1 : Dest) (b2 : Bytes)
    (s1 : UdpSock) (w1 : Option Bytes) (_h1 : s.send C m1 d1 = .ok (s1, w1))
    (henc : encMsg C m2 = .ok b2) (hlen : b2.length ≤ maxDatagram) :
    ∃ s2, s1.send C m2 .peer = .ok (s2, some b2) := by
  obtain ⟨s2, h⟩ := C19_udp_send_exact C s1 m2 .peer b2 henc
  exact ⟨s2, by rw [h, if_pos ⟨rfl, hlen⟩]⟩

/-- **C19 (undecodable datagrams are skipped).** `receive_one` yields a message exactly when the
payload decodes; anything else is dropped without an error. -/
theorem C19_udp_recv_skip (C : Compressor) (datagram : Bytes) :
    UdpSock.receiveOne C datagram = none ↔ decMsg C datagram = none := by
  unfold UdpSock.receiveOne
  cases decMsg C datagram <;> simp

example : (({} : UdpSock).send ⟨fun _ => none, fun _ => none⟩ .badCluster .peer).map (·.2)
    = .ok (some [0x53, 0xB0, 0, 3]) := by rfl

example : (({ bufSend := [1, 2, 3] } : UdpSock).send ⟨fun _ => none, fun _ => none⟩ .badCluster .unreachable).map (·.2)
    = .ok none := by rfl

/-! ### Non-vacuity -/
example : (srvRun 1 (fun k => if k % 2 = 0 then .err else .ok)
    [.tick, .recvSyn true, .recvUndecodable, .cmdGossip, .tick, .userLock, .cmdShutdown, .tick]).status = .stoppedOk := by
  decide

example : (srvRun 1 (fun k => if k % 2 = 0 then .err else .ok)
    [.tick, .recvSyn true, .recvUndecodable, .cmdGossip, .tick, .userLock, .cmdShutdown, .tick]).heartbeat = 4 := by
  decide

end Chitchat
