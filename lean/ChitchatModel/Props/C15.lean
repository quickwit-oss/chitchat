/-
Props/C15.lean — key-change listeners fire exactly for matching prefixes.
-/
import ChitchatModel.Lemmas.Listener
import ChitchatModel.Lemmas.NodeState
namespace Chitchat
open Listeners

/-- well-formed subscription map: prefixes in strictly increasing byte order (a `BTreeMap`) and valid
UTF-8 (they are Rust `String`s) -/
structure Listeners.WF (ls : Listeners) : Prop where
  sorted : SortedKeys ls
  utf8 : ∀ p ∈ ls, validUtf8 p.1 = true

/-- **C15 (exactly the matching prefixes).** For arbitrary UTF-8 keys and prefixes — the empty key
and the empty prefix included — the range scan calls, once each, exactly the listeners whose prefix
is a prefix of the key, with the key stripped of that prefix; nobody else. -/
theorem C15_trigger_exact (ls : Listeners) (key value : Bytes) (h : ls.WF) :
    ls.triggerEvent key value = ls.matching key value := by
  rw [matching_split h.sorted, triggerEvent]
  dsimp only
  by_cases hkey : key = []
  · -- the empty key has no non-empty prefix
    subst hkey
    rw [if_pos rfl]
    have hnone : matching (ls.filter (fun p => p.1 ≠ [])) [] value = [] := by
      rw [matching, List.flatten_eq_nil_iff]
      intro l hl
      obtain ⟨q, hq, rfl⟩ := List.mem_map.1 hl
      exact if_neg fun hp => of_decide_eq_true (List.mem_filter.1 hq).2 (List.prefix_nil.1 (isPrefix_iff_prefix.1 hp))
    rw [hnone, List.append_nil]
  · -- the scanned range and the non-empty prefixes differ only in prefixes that do not match
    rw [if_neg hkey]
    congr 1
    apply flatten_map_filter_congr
    intro x hx hne
    by_cases hx1 : x.1 = []
    · simp [hx1, nil_not_in_range hkey] at hne
    · by_cases hpre : isPrefix x.1 key = true
      · have := prefix_in_range x.1 key hpre hx1 (h.utf8 x hx)
        simp [hx1, this.1, this.2] at hne
      · exact if_neg hpre

/-- **C15 (when).** A write produces an event for the listeners iff it was accepted (newer than what
is stored) and is not a deletion; deletions and updates ignored as stale produce none. -/
theorem C15_event_iff (s : NodeState) (key : Bytes) (u : VV) :
    (s.setVersionedValue key u).2 =
      if (match AL.lookup key s.kvs with | some old => decide (old.version < u.version) | none => true) = true
          ∧ u.isDeleted = false
      then [⟨key, u.value⟩] else [] := by
  rw [NodeState.svv_eq]
  rfl

/-- **C15 (unsubscribed listeners are not called).** -/
theorem C15_unsubscribed_not_called (ls : Listeners) (pfx : Bytes) (id : Nat) (ids : List Nat)
    (h : AL.lookup pfx ls = some ids) :
    AL.lookup pfx (ls.unsubscribe pfx id) = some (ids.filter (· != id)) ∧
    id ∉ (ids.filter (· != id)) := by
  unfold unsubscribe
  rw [h]
  exact ⟨AL.lookup_insert_self _ _ _ _, by simp⟩

/-- **C15 (F-2).** Before the repair, any non-empty key whose first character is multi-byte aborted
the caller; after it, `triggerEvent` is total. -/
theorem C15_unrepaired_panics (ls : Listeners) (b : UInt8) (t value : Bytes) (h : utf8Len b ≠ 1) :
    ls.triggerEventUnrepaired (b :: t) value = .error .listenerCharBoundary := by
  simp only [triggerEventUnrepaired]; rw [if_neg h]

/-! ### Non-vacuity: prefixes "", "a", "é" and key "éa" -/
example : Listeners.WF [([], [0]), ([0x61], [1]), ([0xC3, 0xA9], [2])] :=
  ⟨by unfold SortedKeys; decide, by decide⟩

example : Listeners.triggerEvent [([], [0]), ([0x61], [1]), ([0xC3, 0xA9], [2])] [0xC3, 0xA9, 0x61] [7]
    = [(0, [0xC3, 0xA9, 0x61], [7]), (2, [0x61], [7])] := by rfl

end Chitchat
