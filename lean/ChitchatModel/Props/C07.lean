/-
Props/C07.lean — replies fit one UDP datagram and truncation only cuts the tail.
-/
import ChitchatModel.Lemmas.Emit
import ChitchatModel.Lemmas.Message
namespace Chitchat
open ClusterState NodeState

/-- **C07 (writer).** For every sound compressor: appending an item that fits one block to a writer
whose pending block fits one block yields a stream no longer than the upper bound the code computed
*before* the append (`serialized_len_upperbound_after`). -/
theorem C07_writer_bound (C : Compressor) (hC : C.Sound) (w : Writer) (item : Bytes)
    (h0 : 0 < w.threshold) (hb : w.block.length ≤ w.threshold) (hi : item.length ≤ w.threshold) :
    ((w.append C item).finish C).length ≤ w.upperBoundAfter item.length :=
  finish_append_le_upperBound hC w item hb hi

/-- Every copy of the cluster state only contributes ops that fit one block of `thr` bytes. -/
def SmallState (cs : ClusterState) (thr : Nat) : Prop := ∀ p ∈ cs.nodes, SmallCopy thr p.1 p.2

def Digest.Bounded (d : Digest) : Prop := ∀ p ∈ d, p.2.maxVersion < two64

/-- **C07 (content of a delta).** Whatever the byte budget, the compressor and the shuffle order
did: every node delta in the result of `compute_partial_delta_respecting_mtu` is about a member
that has a copy here and is not quarantined, starts at the version `senderFrom` decides from the
peer's digest entry (0 = reset), and consists of the copy's watermark plus the first `n` stale
key-values in increasing version order for some `n` — and carries the copy's max version only when
there was no key-value to send at all. In particular a truncated delta never skips a key-value,
never invents one and never announces a max version it did not deliver up to. -/
theorem C07_content (C : Compressor) (cs : ClusterState) (digest : Digest) (mtu : Nat)
    (sched order : List Id) (delta : Delta)
    (h : computeDelta C cs digest mtu sched order = .ok delta) :
    ∀ p ∈ delta.nodeDeltas, ∃ s, (p.1, s) ∈ cs.nodes ∧ sched.contains p.1 = false ∧
      ∃ dGc dMax, ((∃ d, AL.lookup p.1 digest = some d ∧ d.lastGc = dGc ∧ d.maxVersion = dMax) ∨
                   (AL.lookup p.1 digest = none ∧ dGc = 0 ∧ dMax = 0)) ∧
        senderFrom s dGc dMax < s.maxVersion ∧
        ∃ (n : Nat) (setMax : Bool), p.2 = senderNodeDelta s (senderFrom s dGc dMax) n setMax := by
  intro p hp
  obtain ⟨sn, hsn, hid, n, b, hshape⟩ := computeDelta_shape C cs digest mtu sched order delta h p hp
  obtain ⟨hmem, hsched, hfrom, _, hlt⟩ := mem_staleNodes hsn
  rw [hid] at hmem hsched hfrom
  rw [hfrom] at hlt hshape
  refine ⟨sn.state, hmem, hsched, _, _, ?_, hlt, n, b, hshape⟩
  unfold digestEntry
  cases AL.lookup p.1 digest with
  | some d => exact Or.inl ⟨d, rfl, rfl, rfl⟩
  | none => exact Or.inr ⟨rfl, rfl, rfl⟩

/-- **C07 (delta size, partial).** For every sound compressor, every peer digest, every set of
members scheduled for deletion and every tie order: if every op the state can contribute fits one
block (`SmallState`), the delta computed for a budget `mtu` records — and therefore serializes to —
at most `mtu` bytes.

*Partial*: items larger than one block (16 KiB) are outside this theorem: the code's upper bound
accounts for at most two blocks, so for them the bound relies on zstd actually shrinking full
blocks (assumption `FullBlockGain` of DESIGN.md, exercised by the `mtu` suite). -/
theorem C07_delta_fits_partial (C : Compressor) (hC : C.Sound) (cs : ClusterState) (digest : Digest)
    (mtu : Nat) (sched order : List Id) (delta : Delta)
    (hsmall : SmallState cs (min 16384 mtu)) (hd : digest.Bounded)
    (h : cs.computeDelta C digest mtu sched order = .ok delta) :
    delta.serializedLen ≤ mtu := by
  obtain ⟨tr, ds', hsub, htr, rfl⟩ := computeDelta_admits h
  have hops : ∀ op ∈ tr.ops, WFOp op ∧ opLen op ≤ min 16384 mtu := by
    intro op hop
    obtain ⟨t, ht, hop⟩ := List.mem_flatMap.1 hop
    obtain ⟨hmem, _, hfrom, _⟩ := mem_staleNodes (hsub t ht)
    refine (hsmall _ hmem).memberOps ?_ _ _ op hop
    rw [hfrom]
    refine Nat.lt_of_le_of_lt (senderFrom_le _ _ _) ?_
    unfold digestEntry
    cases hl : AL.lookup t.1.id digest with
    | some d => exact hd _ (AL.mem_of_lookup hl)
    | none => decide
  obtain ⟨hinv, hm⟩ := htr.dsInv hC _ hops (DSInv.init C (computeDelta_eq_ok.1 h).1) rfl
  exact Nat.le_trans hinv.len (Nat.le_of_eq hm)

/-- **C07 (SYN-ACK fits, partial).** Whenever the own digest leaves at least 100 bytes of room
(otherwise the code refuses to build a delta), a SYN-ACK announces at most 65 507 bytes. Together
with `C08_len_*` (announced length = bytes written) this is the datagram bound. `n1` is the node
after the SYN's heartbeats have been recorded (that is when the own digest is computed). -/
theorem C07_synack_fits_partial (C : Compressor) (hC : C.Sound) (n n' : Node) (cid : Bytes) (digest : Digest)
    (now : Nat) (order : List Id) (fx : Effects) (d : Digest) (delta : Delta)
    (hhdr : n.cfg.headerReserve = headerLen)
    (hd : digest.Bounded)
    (hsmall : ∀ n1 : Node, n1 = (n.updateSelfHeartbeat).reportHeartbeatsInDigest digest now →
        SmallState n1.cs (min 16384 (maxDatagram - headerLen - digestLen (n1.cs.computeDigest (n1.scheduledForDeletion now)))))
    (h : n.processMessage C (.syn cid digest) now order = .ok (n', fx))
    (hr : fx.reply = some (.synAck d delta)) :
    msgLen (.synAck d delta) ≤ maxDatagram := by
  rcases Node.processMessage_syn_eq_ok.1 h with ⟨_, _, rfl⟩ | ⟨_, rfl, hroom, dl, hc, rfl⟩
  · cases hr
  · cases hr
    rw [hhdr] at hroom hc
    have hfit := C07_delta_fits_partial C hC _ digest _ _ order delta (hsmall _ rfl) hd hc
    -- `x ≤ M - (h + a)` and `h + a ≤ M` give `x + (h + a) ≤ M`
    rw [Nat.sub_sub] at hfit
    simp only [msgLen]
    rw [Nat.add_comm]
    exact Nat.add_le_of_le_sub hroom hfit

/-! ### Non-vacuity -/
example : SmallCopy 16384 ⟨[110, 49], 0, .v4 [127, 0, 0, 1] 1001⟩ ⟨3, [([107], ⟨[118], 1, .set⟩)], 1, 0⟩ := by
  refine ⟨⟨⟨by decide, by decide⟩, by decide, WFAddr.v4 _ _ rfl (by decide)⟩, by decide, by decide, by decide, ?_⟩
  intro p hp
  simp only [List.mem_singleton] at hp
  subst hp
  exact ⟨⟨by decide, by decide⟩, ⟨by decide, by decide⟩, by decide, by decide⟩

end Chitchat
