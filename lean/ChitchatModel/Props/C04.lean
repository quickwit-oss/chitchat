/-
Props/C04.lean — versions and replication frontiers only move forward.
-/
import ChitchatModel.Lemmas.Cluster
import ChitchatModel.Lemmas.Local
namespace Chitchat
open NodeState

/-- **C04 (apply).** For *every* copy and *every* delta with `KvsLeMax` — whether or not an honest
sender could have produced it for that copy — `apply_delta` does not abort; a rejected delta changes
nothing; an applied one keeps the watermark and strictly raises the max version; a reset strictly
raises the watermark. The heartbeat is never touched. -/
theorem C04_apply_monotone (s : NodeState) (nd : NodeDelta) (now : Nat) (hwf : nd.KvsLeMax) :
    ∃ s' evs, s.applyDelta nd now = .ok (s', s.checkDeltaStatus nd, evs) ∧
      s'.heartbeat = s.heartbeat ∧
      (s.checkDeltaStatus nd = .reject → s' = s) ∧
      (s.checkDeltaStatus nd = .apply → s'.lastGc = s.lastGc ∧ s.maxVersion < s'.maxVersion) ∧
      (s.checkDeltaStatus nd = .applyAfterReset → s.lastGc < s'.lastGc) := by
  by_cases hr : s.checkDeltaStatus nd = .reject
  · exact ⟨s, [], by rw [applyDelta_reject hr, hr], rfl, fun _ => rfl, by simp [hr], by simp [hr]⟩
  · obtain ⟨evs, h⟩ := applyDelta_ok s nd now hwf hr
    refine ⟨_, evs, h, ?_, fun h => absurd h hr, ?_, ?_⟩
    · simp only [storeAll_hb]; unfold applyBase; split <;> rfl
    · intro hst
      refine ⟨?_, ((checkDeltaStatus_apply_iff s nd).1 hst).2.2⟩
      rw [storeAll_gc, applyBase_of_not_reset (by simp [hst])]
    · intro hst
      simp only [storeAll_gc, applyBase_of_reset hst]
      exact ((checkDeltaStatus_reset_iff s nd).1 hst).2.1

/-- **C04 (frontier).** Whatever is delivered, the pair (GC watermark, max version) of the copy does
not decrease in lexicographic order, and strictly increases unless the delta was rejected. -/
theorem C04_frontier_monotone (s : NodeState) (nd : NodeDelta) (now : Nat) (hwf : nd.KvsLeMax) :
    ∃ s' evs, s.applyDelta nd now = .ok (s', s.checkDeltaStatus nd, evs) ∧
      frontierLe s.frontier s'.frontier ∧
      (s.checkDeltaStatus nd = .reject → s' = s) ∧
      (s.checkDeltaStatus nd ≠ .reject → frontierLt s.frontier s'.frontier) := by
  obtain ⟨s', evs, h, _, hr, ha, hreset⟩ := C04_apply_monotone s nd now hwf
  have hlt : s.checkDeltaStatus nd ≠ .reject → frontierLt s.frontier s'.frontier := by
    intro hne
    cases hst : s.checkDeltaStatus nd with
    | reject => exact absurd hst hne
    | apply => exact Or.inr ⟨(ha hst).1.symm, (ha hst).2⟩
    | applyAfterReset => exact Or.inl (hreset hst)
  refine ⟨s', evs, h, ?_, hr, hlt⟩
  by_cases hrej : s.checkDeltaStatus nd = .reject
  · rw [hr hrej]; exact frontierLe_refl _
  · exact (hlt hrej).le

/-- **C04 (keys).** Unless the copy is wiped by a reset, no key's stored version decreases. -/
theorem C04_key_version_monotone (s : NodeState) (nd : NodeDelta) (now : Nat)
    (s' : NodeState) (st : DeltaStatus) (evs : List Event)
    (h : s.applyDelta nd now = .ok (s', st, evs)) (hst : st ≠ .applyAfterReset)
    (k : Bytes) (v : VV) (hk : AL.lookup k s.kvs = some v) :
    ∃ v', AL.lookup k s'.kvs = some v' ∧ v.version ≤ v'.version := by
  obtain ⟨hs, hrej, hok⟩ := applyDelta_spec h
  by_cases hr : st = .reject
  · rw [hrej hr]; exact ⟨v, hk, Nat.le_refl _⟩
  · rw [(hok hr).2, applyBase_of_not_reset (hs ▸ hst)]
    exact storeAll_version_mono _ hk

/-- **C04 (cluster).** `ClusterState::apply_delta` never aborts on deltas whose node deltas satisfy
`KvsLeMax` (neither the `max_version` assertion nor the monotonic-property assertion can fire). -/
theorem C04_cluster_apply_no_panic (now : Nat) (nds : List (Id × NodeDelta))
    (hwf : ∀ p ∈ nds, p.2.KvsLeMax) (cs : ClusterState) :
    ∃ r, ClusterState.applyDelta now cs nds = .ok r := by
  induction nds generalizing cs with
  | nil => exact ⟨_, rfl⟩
  | cons p rest ih =>
    obtain ⟨i, nd⟩ := p
    have hrest : ∀ p ∈ rest, p.2.KvsLeMax := fun q hq => hwf q (List.mem_cons_of_mem _ hq)
    cases hn : cs.nodeState i with
    | none => rw [ClusterState.applyDelta_cons_none nd rest hn]; exact ih hrest cs
    | some s =>
      obtain ⟨s', evs, h, hle, _⟩ := C04_frontier_monotone s nd now (hwf (i, nd) List.mem_cons_self)
      obtain ⟨r, hr⟩ := ih hrest (cs.setNode i s')
      rw [ClusterState.applyDelta_cons_some rest hn h hle, hr]
      exact ⟨_, rfl⟩

/-- **C04 (local writes).** An effective `set` gets the version `max + 1`. -/
theorem C04_set_fresh_version (s : NodeState) (key value : Bytes) (hs : EntriesLeMax s) :
    (s.set key value).1 = s ∨
    ((s.set key value).1.maxVersion = s.maxVersion + 1 ∧
     AL.lookup key (s.set key value).1.kvs = some ⟨value, s.maxVersion + 1, .set⟩ ∧
     (s.set key value).1.lastGc = s.lastGc) :=
  (set_eq s key value hs).imp_right (fun e => by rw [e]; exact bump_fresh ..)

/-- Setting a key to its current value (same status) changes nothing at all. -/
theorem C04_set_same_value_noop (s : NodeState) (key value : Bytes) (ver : Nat)
    (h : AL.lookup key s.kvs = some ⟨value, ver, .set⟩) : s.set key value = (s, []) := by
  unfold NodeState.set getVersioned
  rw [h]
  simp

theorem C04_setWithTtl_fresh_version (s : NodeState) (key value : Bytes) (now : Nat) (hs : EntriesLeMax s) :
    (s.setWithTtl key value now).1 = s ∨
    ((s.setWithTtl key value now).1.maxVersion = s.maxVersion + 1 ∧
     AL.lookup key (s.setWithTtl key value now).1.kvs = some ⟨value, s.maxVersion + 1, .ttl now⟩ ∧
     (s.setWithTtl key value now).1.lastGc = s.lastGc) :=
  (setWithTtl_eq s key value now hs).imp_right (fun e => by rw [e]; exact bump_fresh ..)

theorem C04_delete_fresh_version (s : NodeState) (key : Bytes) (now : Nat) :
    s.delete key now = s ∨
    ((s.delete key now).maxVersion = s.maxVersion + 1 ∧
     AL.lookup key (s.delete key now).kvs = some ⟨[], s.maxVersion + 1, .deleted now⟩ ∧
     (s.delete key now).lastGc = s.lastGc) :=
  (delete_eq s key now).imp_right (fun e => by rw [e]; exact bump_fresh ..)

theorem C04_deleteAfterTtl_fresh_version (s : NodeState) (key : Bytes) (now : Nat) :
    s.deleteAfterTtl key now = s ∨
    ((s.deleteAfterTtl key now).maxVersion = s.maxVersion + 1 ∧
     (∃ v, AL.lookup key (s.deleteAfterTtl key now).kvs = some ⟨v, s.maxVersion + 1, .ttl now⟩) ∧
     (s.deleteAfterTtl key now).lastGc = s.lastGc) :=
  (deleteAfterTtl_eq s key now).imp_right (fun ⟨v, e⟩ => by
    rw [e]; exact ⟨rfl, ⟨v, (bump_fresh ..).2.1⟩, rfl⟩)

/-- **C04 (GC).** A tombstone GC pass never lowers the watermark and never touches the max version. -/
theorem C04_gc_monotone (s : NodeState) (now grace : Nat) :
    s.lastGc ≤ (s.gcKeys now grace).lastGc ∧ (s.gcKeys now grace).maxVersion = s.maxVersion :=
  ⟨(gcKeys_watermark s now grace).1, rfl⟩

/-- **C04 (no shadowing).** After a non-rejected `apply_delta`, every key-value of the delta that is new
to the copy the loop started from (the copy itself, or the wiped copy after a reset) — above its max
version and not an already collected tombstone — is stored at its version or a newer one, whatever
else the delta contains (the same key again, at any version, in any order). -/
theorem C04_new_kv_kept (s : NodeState) (nd : NodeDelta) (now : Nat) (s' : NodeState) (st : DeltaStatus)
    (evs : List Event) (h : s.applyDelta nd now = .ok (s', st, evs)) (hst : st ≠ .reject)
    (kv : KVM) (hkv : kv ∈ nd.kvs) (hnew : (s.applyBase nd).maxVersion < kv.version)
    (hngc : ¬ (kv.status.scheduledForDeletion ∧ kv.version ≤ (s.applyBase nd).lastGc)) :
    ∃ v', AL.lookup kv.key s'.kvs = some v' ∧ kv.version ≤ v'.version := by
  rw [((applyDelta_spec h).2.2 hst).2]
  exact storeAll_kept _ (p := (kv.key, ⟨kv.value, kv.version, kv.status.intoStatus now⟩))
    (mem_stored.2 ⟨kv, hkv, Nat.not_le.2 hnew, hngc, rfl⟩)

/-! ### Non-vacuity: concrete states meeting the hypotheses -/

-- a reset delta with max < gc …
example : (⟨0, 5, [⟨[1], [2], 1, .set⟩, ⟨[3], [], 3, .delete⟩], 3⟩ : NodeDelta).KvsLeMax := by decide

-- … applied by a copy that is mid-reset (watermark above max version)
example :
    (NodeState.applyDelta ⟨7, [([9], ⟨[1], 2, .set⟩)], 2, 4⟩
        ⟨0, 5, [⟨[1], [2], 1, .set⟩, ⟨[3], [], 3, .delete⟩], 3⟩ 10) =
      .ok (⟨7, [([1], ⟨[2], 1, .set⟩)], 3, 5⟩, .applyAfterReset, [⟨[1], [2]⟩]) := by rfl

example : EntriesLeMax ⟨1, [([1], ⟨[2], 1, .set⟩)], 1, 0⟩ :=
  fun k v h => (by decide : ∀ p ∈ [(([1] : Bytes), (⟨[2], 1, .set⟩ : VV))], p.2.version ≤ 1) (k, v) (AL.mem_of_lookup h)

end Chitchat
