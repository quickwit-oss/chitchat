/-
Props/C12.lean — dead members are quarantined, then removed, and not revived by stale gossip.
-/
import ChitchatModel.Lemmas.Message
import ChitchatModel.Lemmas.Sender
import ChitchatModel.Props.C10
namespace Chitchat

/-- Invariant of a node: live/dead disjoint and the local node is in neither set of the failure
detector (`liveNodes` adds it). -/
structure Node.LivenessInv (n : Node) : Prop where
  disjoint : n.fd.Disjoint
  selfNotDead : AL.lookup n.cfg.selfId n.fd.dead = none
  selfNotInFdLive : n.cfg.selfId ∉ n.fd.live

/-- **C12 (live and dead stay disjoint, the local node is never dead).** The liveness evaluation, the
only place that moves members between the two sets, keeps the invariant. Heartbeat reports and the
catch-up do not touch `live`/`dead` (`reportHeartbeat_live_dead`, `createWindow_live_dead`); for the
node GC, which only drops entries of `dead`, disjointness is shown (`garbageCollect_disjoint`). -/
theorem C12_evalLiveness_inv (n : Node) (now : Nat) (h : n.LivenessInv) : (n.evalLiveness now).LivenessInv :=
  n.evalLiveness_induct now (P := fun fd => ({ n with fd := fd } : Node).LivenessInv) h
    (fun fd hfd i hi =>
      have ho := updateNodeLiveness_other n.cfg.fd fd i n.cfg.selfId now (Ne.symm hi)
      ⟨updateNodeLiveness_disjoint _ fd i now hfd.disjoint, ho.2.trans hfd.selfNotDead,
        fun hin => hfd.selfNotInFdLive (ho.1.1 hin)⟩)

/-- **C12 (partition).** Right after the evaluation, every other known member is in exactly one of
the two sets. -/
theorem C12_partition_after_eval (n : Node) (now : Nat) (i : Id) (s : NodeState)
    (hi : (i, s) ∈ n.cs.nodes) (hne : i ≠ n.cfg.selfId) :
    (i ∈ (n.evalLiveness now).fd.live ∧ AL.lookup i (n.evalLiveness now).fd.dead = none) ∨
    (i ∉ (n.evalLiveness now).fd.live ∧ (AL.lookup i (n.evalLiveness now).fd.dead).isSome) :=
  n.evalLiveness_settled now (List.mem_map.2 ⟨(i, s), hi, rfl⟩) hne

/-- **C12 (the local node is always live and never removed).** -/
theorem C12_self_always_live (n : Node) : n.cfg.selfId ∈ n.liveNodes := List.mem_cons_self

theorem C12_self_never_removed (n : Node) (now : Nat) :
    (n.gcDeadNodes now).cs.nodeState n.cfg.selfId = n.cs.nodeState n.cfg.selfId :=
  n.gcDeadNodes_induct now (P := fun cs => cs.nodeState n.cfg.selfId = n.cs.nodeState n.cfg.selfId) rfl
    (fun cs h i hi => by rw [ClusterState.nodeState_removeNode, if_neg (Ne.symm hi), h])

/-- used for the digest without the quarantined members, and for the dead set and the sampling windows
after `garbage_collect` -/
theorem not_mem_filter_gone {α : Type} (gone : List Id) (l : List (Id × α)) (i : Id) (hi : i ∈ gone) :
    ∀ p ∈ l.filter (fun p => !gone.contains p.1), p.1 ≠ i := by
  intro p hp heq
  have := (List.mem_filter.1 hp).2
  rw [heq, List.contains_iff_mem.2 hi] at this
  cases this

/-- **C12 (quarantine: digests).** A member scheduled for deletion (dead for more than half the
grace period) is not mentioned in the digest of a SYN or SYN-ACK. -/
theorem C12_quarantine_digest (cs : ClusterState) (sched : List Id) (i : Id) (hi : i ∈ sched) :
    ∀ p ∈ cs.computeDigest sched, p.1 ≠ i := by
  intro p hp
  obtain ⟨q, hq, rfl⟩ := List.mem_map.1 hp
  exact not_mem_filter_gone sched cs.nodes i hi q hq

/-- **C12 (quarantine: deltas).** …nor is it ever a candidate for a delta. -/
theorem C12_quarantine_delta (cs : ClusterState) (digest : Digest) (sched : List Id) (i : Id) (hi : i ∈ sched) :
    ∀ sn ∈ ClusterState.staleNodes cs digest sched, sn.id ≠ i := by
  intro sn hsn heq
  have := (mem_staleNodes hsn).2.1
  rw [heq, List.contains_iff_mem.2 hi] at this
  cases this

/-- **C12 (who is scheduled).** Exactly the members dead for strictly more than half the grace period. -/
theorem C12_scheduled_iff (cfg : FDConfig) (fd : FD) (now : Nat) (i : Id) :
    i ∈ fd.scheduledForDeletion cfg now ↔ ∃ t, (i, t) ∈ fd.dead ∧ t + cfg.deadGrace / 2 < now := by
  unfold FD.scheduledForDeletion
  simp only [List.mem_map, List.mem_filter, decide_eq_true_eq]
  constructor
  · rintro ⟨p, ⟨hp, ht⟩, rfl⟩; exact ⟨p.2, hp, ht⟩
  · rintro ⟨t, hp, ht⟩; exact ⟨(i, t), ⟨hp, ht⟩, rfl⟩

/-- **C12 (removal at the grace period).** A member dead for the full grace period is collected by
the evaluation: it leaves the dead set, loses its sampling window and its copy is removed (its
heartbeat being remembered). -/
theorem C12_removed_at_grace (cfg : FDConfig) (fd : FD) (now : Nat) (i : Id) (t : Nat)
    (hd : (i, t) ∈ fd.dead) (hg : t + cfg.deadGrace ≤ now) :
    i ∈ (fd.garbageCollect cfg now).1 ∧
    (∀ p ∈ (fd.garbageCollect cfg now).2.dead, p.1 ≠ i) ∧
    (∀ p ∈ (fd.garbageCollect cfg now).2.windows, p.1 ≠ i) := by
  have hgone : i ∈ (fd.garbageCollect cfg now).1 :=
    List.mem_map.2 ⟨(i, t), List.mem_filter.2 ⟨hd, decide_eq_true hg⟩, rfl⟩
  exact ⟨hgone, not_mem_filter_gone _ _ i hgone, not_mem_filter_gone _ _ i hgone⟩

theorem C12_remove_remembers_heartbeat (cs : ClusterState) (i : Id) (s : NodeState)
    (h : cs.nodeState i = some s) :
    (cs.removeNode i).nodeState i = none ∧ (cs.removeNode i).lastHeartbeatIfDeleted i = some s.heartbeat := by
  refine ⟨by rw [ClusterState.nodeState_removeNode, if_pos rfl], ?_⟩
  unfold ClusterState.removeNode
  rw [h]
  simp [ClusterState.lastHeartbeatIfDeleted, gcMemoryCap, AL.lookup_cons]

/-- **C12 (no revival by stale gossip).** Once removed, the member is recreated only by a heartbeat
strictly above the remembered one: an equal or lower heartbeat leaves the node completely
unchanged… -/
theorem C12_recreate_guard (n : Node) (i : Id) (hb h now : Nat)
    (habs : n.cs.nodeState i = none) (hmem : n.cs.lastHeartbeatIfDeleted i = some h) (hle : hb ≤ h) :
    n.reportHeartbeat i hb now = n := by
  rcases Node.reportHeartbeat_cases n i hb now with e | ⟨s, _, hs, _⟩
  · exact e
  · rcases Node.reportBase_cases n i hb with ⟨_, e⟩ | ⟨hnb, _⟩
    · rw [e, habs] at hs; cases hs
    · unfold Node.blocked at hnb; rw [hmem] at hnb; exact absurd (Nat.not_lt.2 hle) hnb

/-- …a delta never creates a copy… -/
theorem C12_delta_never_creates (now : Nat) (nds : List (Id × NodeDelta)) (cs cs' : ClusterState)
    (flag : Bool) (evs : List (Id × Event)) (i : Id)
    (h : ClusterState.applyDelta now cs nds = .ok (cs', flag, evs)) (habs : cs.nodeState i = none) :
    cs'.nodeState i = none ∧ cs'.gcMemory = cs.gcMemory :=
  ⟨ClusterState.applyDelta_invariant_at i (· = none) (fun _ _ _ _ _ _ hP => nomatch hP) h habs,
    ClusterState.applyDelta_invariant (·.gcMemory = cs.gcMemory) (fun _ _ _ _ _ _ _ _ hP _ _ _ => hP) h rfl⟩

/-- …and neither does the external catch-up while the member is remembered as collected. -/
theorem C12_catchup_never_recreates (n : Node) (i : Id) (kvs : List (Bytes × VV)) (mx gc h : Nat)
    (habs : n.cs.nodeState i = none) (hmem : n.cs.lastHeartbeatIfDeleted i = some h) :
    n.resetNodeStateIfUpdate i kvs mx gc = .ok (n, []) := by
  unfold Node.resetNodeStateIfUpdate
  simp only [hmem, Option.isNone_some, Bool.false_eq_true, if_false, habs]

/-- A recreated member starts with no sampling window, hence is dead at the next evaluation and
must go through the normal dead-to-live path. -/
theorem C12_recreated_is_dead (cfg : FDConfig) (fd : FD) (i : Id) (now : Nat) (h : fd.window i = none) :
    i ∉ (fd.updateNodeLiveness cfg i now).live :=
  C10_no_window_not_live cfg fd i now h

/-- **C12 (the time of death is set once).** An evaluation that finds an already dead member still
not alive leaves its time of death alone — stale heartbeats, whatever they do to the sampling
window, cannot restart the grace period; and reports never touch it. -/
theorem C12_time_of_death_stable (cfg : FDConfig) (fd : FD) (i : Id) (now t : Nat)
    (hdead : AL.lookup i fd.dead = some t) (hna : fd.isAlive cfg i now = false) :
    AL.lookup i (fd.updateNodeLiveness cfg i now).dead = some t := by
  rw [lookup_dead_updateNodeLiveness, if_pos rfl, if_neg (ne_true_of_eq_false hna), hdead]
  rfl

theorem C12_time_of_death_other (cfg : FDConfig) (fd : FD) (i j : Id) (now : Nat) (hij : j ≠ i) :
    AL.lookup j (fd.updateNodeLiveness cfg i now).dead = AL.lookup j fd.dead :=
  (updateNodeLiveness_other cfg fd i j now hij).2

theorem C12_report_keeps_time_of_death (cfg : FDConfig) (fd : FD) (i : Id) (now : Nat) :
    (fd.reportHeartbeat cfg i now).dead = fd.dead :=
  (reportHeartbeat_live_dead cfg fd i now).2

/-! ### Non-vacuity -/
example : ({ cfg := ⟨⟨[1], 0, .v4 [127, 0, 0, 1] 1⟩, [99], 10, ⟨8, 1, 10, 10, 5, 100⟩, none, 4⟩ } : Node).LivenessInv :=
  ⟨FD.disjoint_empty, rfl, List.not_mem_nil⟩

end Chitchat
